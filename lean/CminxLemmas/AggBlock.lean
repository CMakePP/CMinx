import CminxLemmas.AggCmd
/-!
Blocks, and the induction over item lists that proves T-aggS.

`ItemsOKS` is the one statement the induction proves: from a state between two commands of a list — an entry may
await its definition (`InvA`) — the events of the rest of the list lead to `post s' kw (itemsSpecS … items)`, where
`s'` is the state in which the first definition of the list has *already* completed what awaits (`claimedAny`).
The single commands between a declaration and its definition commute with that completion (`claimedAny_post`); a
definition performs it (`run_def`); every other block and every declaration needs nothing awaited, which
well-formedness grants.  `BodyOKS` and `T_aggS_frame` are the case in which nothing awaits.
-/
namespace Cminx

/-- the refinement statement for a body (bodies start with nothing awaiting a definition) -/
def BodyOKS (cfg : Cfg) (items : List Item) : Prop :=
  ∀ (inClass : Bool) (st : AggState), Inv st → itemsWfS inClass false items = true →
    (inClass = true → st.classStack ≠ []) →
    (cfg.inclCppClass = true ∨ itemsHaveDocumentedClass items = false) →
    (itemsEvents items).foldlM (step cfg) st =
      .ok (post st (itemsCpaDirect items) (itemsSpecS cfg (ctxOf st.classStack) false items))

theorem foldlM_single (cfg : Cfg) (st : AggState) (e : Event) :
    [e].foldlM (step cfg) st = step cfg st e := by
  simp only [List.foldlM_cons, List.foldlM_nil]
  cases step cfg st e <;> rfl

theorem BodyOKS.closer {cfg : Cfg} {body : List Item} (ih : BodyOKS cfg body) (inClass : Bool) (st : AggState)
    (hinv : Inv st) (hwb : itemsWfS inClass false body = true) (hcls : inClass = true → st.classStack ≠ [])
    (hk : cfg.inclCppClass = true ∨ itemsHaveDocumentedClass body = false) (c : Call) :
    (itemsEvents body ++ [Event.cmd c.toCmd]).foldlM (step cfg) st =
      enterCommand cfg (post st (itemsCpaDirect body) (itemsSpecS cfg (ctxOf st.classStack) false body)) false
        c.toCmd := by
  rw [List.foldlM_append, ih inClass st hinv hwb hcls hk, except_ok_bind, foldlM_single, step_cmd]

/-! ## the K1 guard on the parts of a list -/

theorem k1_cons {cfg : Cfg} {i : Item} {is : List Item}
    (h : cfg.inclCppClass = true ∨ itemsHaveDocumentedClass (i :: is) = false) :
    (cfg.inclCppClass = true ∨ i.hasDocumentedClass = false) ∧
    (cfg.inclCppClass = true ∨ itemsHaveDocumentedClass is = false) := by
  simp only [itemsHaveDocumentedClass, Bool.or_eq_false_iff] at h
  exact ⟨h.imp_right And.left, h.imp_right And.right⟩

section
variable {cfg : Cfg} {doc : Option DocC} {o : Call} {body : List Item} {c : Call}

theorem k1_block
    (h : cfg.inclCppClass = true ∨ (Item.block doc o body c).hasDocumentedClass = false) :
    cfg.inclCppClass = true ∨ itemsHaveDocumentedClass body = false := by
  simp only [Item.hasDocumentedClass, Bool.or_eq_false_iff] at h
  exact h.imp_right And.right

/-! ## what `Item.wfS`, `Item.cpaDirect` and `Item.specS` say of a block, by kind of opener -/

theorem isLoopName_facts {n : Str} (h : isLoopName n = true) :
    specialNames.contains n = false ∧ procOf n = none ∧ n ≠ lit "function" ∧ n ≠ lit "macro" ∧
    n ≠ lit "cpp_class" := by
  simp only [isLoopName, Bool.or_eq_true, decide_eq_true_eq] at h
  rcases h with (h | h) | h <;> simp [h, specialNames]

theorem wfS_block_cases {inClass p : Bool}
    (h : (Item.block doc o body c).wfS inClass p = true) :
    ((o.lname = lit "function" ∨ o.lname = lit "macro") ∧
      (c.lname = lit "endfunction" ∨ c.lname = lit "endmacro") ∧
      1 ≤ o.singles.length ∧ itemsWfS false false body = true) ∨
    (p = false ∧ o.lname = lit "cpp_class" ∧ c.lname = lit "cpp_end_class" ∧ 1 ≤ o.singles.length ∧
      itemsWfS true false body = true) ∨
    (p = false ∧ isLoopName o.lname = true ∧
      (c.lname = lit "endif" ∨ c.lname = lit "endforeach" ∨ c.lname = lit "endwhile") ∧
      itemsWfS inClass false body = true) := by
  simp only [Item.wfS, Bool.and_eq_true] at h
  obtain ⟨⟨⟨hp, hclose⟩, hlen⟩, hwb⟩ := h
  rcases closerFor_cases _ _ hclose with ⟨hn, hc⟩ | ⟨hn, hc⟩ | ⟨hn, hc⟩
  · refine .inl ⟨hn, hc, ?_, ?_⟩
    · rcases hn with hn | hn <;> simpa [hn] using hlen
    · rcases hn with hn | hn <;> simpa [hn, isLoopName] using hwb
  · exact .inr (.inl ⟨by simpa [hn, isDefName] using hp, hn, hc, by simpa [hn] using hlen,
      by simpa [hn] using hwb⟩)
  · obtain ⟨-, -, hnf, hnm, hncl⟩ := isLoopName_facts hn
    exact .inr (.inr ⟨by simpa [hnf, hnm, isDefName] using hp, hn, hc, by simpa [hn, hncl] using hwb⟩)

theorem loopCloser_facts {n : Str} (h : n = lit "endif" ∨ n = lit "endforeach" ∨ n = lit "endwhile") :
    specialNames.contains n = false ∧ procOf n = none := by
  rcases h with h | h | h <;> simp [h, specialNames, procOf]

end

section
variable (cfg : Cfg) (doc : Option DocC) (o : Call) (body : List Item) (c : Call)

theorem specS_block_def (ctx : ClsCtx) (p : Bool) (impl : Option Call)
    (hn : o.lname = lit "function" ∨ o.lname = lit "macro") :
    (Item.block doc o body c).specS cfg ctx p impl =
      (if doc.isSome || (!p && (if o.lname = lit "macro" then cfg.inclMacro else cfg.inclFunction)) then
         { top := [defEntry cfg (o.lname = lit "macro") doc o body] } else ({} : Contrib)) ++
        itemsSpecS cfg ctx false body := by
  rcases hn with hn | hn <;> simp [Item.specS, hn]

theorem specS_block_class (ctx : ClsCtx) (p : Bool) (impl : Option Call) (hn : o.lname = lit "cpp_class") :
    (Item.block doc o body c).specS cfg ctx p impl =
      if doc.isSome || cfg.inclCppClass then
        { top := .cls (o.singles.headD []) (docTextOf doc) (o.singles.drop 1)
                   (itemsSpecS cfg .shown false body).inner (itemsSpecS cfg .shown false body).ctors
                   (itemsSpecS cfg .shown false body).members (itemsSpecS cfg .shown false body).attrs ::
                   (itemsSpecS cfg .shown false body).top,
          inner := if ctx = .shown then [o.singles.headD []] else [] }
      else { top := (itemsSpecS cfg .hidden false body).top } := by
  simp [Item.specS, hn]

theorem specS_block_other (ctx : ClsCtx) (p : Bool) (impl : Option Call)
    (h1 : o.lname ≠ lit "function") (h2 : o.lname ≠ lit "macro") (h3 : o.lname ≠ lit "cpp_class") :
    (Item.block doc o body c).specS cfg ctx p impl =
      (if doc.isSome then { top := [.generic o.lname (docTextOf doc) (argTexts o.toCmd.args)] }
        else ({} : Contrib)) ++ itemsSpecS cfg ctx false body := by
  simp [Item.specS, h1, h2, h3]

theorem defEntry_eq (cfg : Cfg) (isMacro : Bool) (doc : Option DocC) (c : Call) (body : List Item) :
    defEntry cfg isMacro doc c body =
      if itemsCpaDirect body then setKwargs (defEntry0 cfg isMacro doc c) else defEntry0 cfg isMacro doc c := by
  cases h : itemsCpaDirect body <;> simp [defEntry, defEntry0, setKwargs, h]

/-! ## a definition: opener, body in the new frame, closer -/

theorem run_def (ih : BodyOKS cfg body)
    (s : AggState) (hinv : InvA s) (hn : o.lname = lit "function" ∨ o.lname = lit "macro")
    (hc : c.lname = lit "endfunction" ∨ c.lname = lit "endmacro") (hl : 1 ≤ o.singles.length)
    (hwb : itemsWfS false false body = true)
    (hk : cfg.inclCppClass = true ∨ itemsHaveDocumentedClass body = false) :
    (docEvent doc o :: (itemsEvents body ++ [Event.cmd c.toCmd])).foldlM (step cfg) s =
      .ok (post (claimedAny cfg s (some o)) false
        ((if doc.isSome || (!s.awaiting.isSome &&
              (if o.lname = lit "macro" then cfg.inclMacro else cfg.inclFunction)) then
            { top := [defEntry cfg (o.lname = lit "macro") doc o body] } else ({} : Contrib)) ++
          itemsSpecS cfg (ctxOf s.classStack) false body)) := by
  have hS := hinv.claimedAny cfg (some o)
  -- `← claimedAny_classStack`: the body runs from the claimed state, so `ih.closer` and `wrapSome`/`wrapNone` speak of
  -- `ctxOf` of that state's class stack; the goal's `ctxOf s.classStack` is turned into it
  rw [List.foldlM_cons, step_def cfg s doc o hn hl (fun _ ha => (hinv.invP ha).rf), except_ok_bind,
    ← claimedAny_classStack (cfg := cfg) (impl := some o)]
  cases (doc.isSome || (!s.awaiting.isSome && (if o.lname = lit "macro" then cfg.inclMacro else cfg.inclFunction)))
  · simp only [Bool.false_eq_true, if_false]
    rw [ih.closer false _ hS.pushNone hwb (by simp) hk, enterCommand_endDef cfg _ false c.toCmd none _ hc rfl]
    exact congrArg Except.ok (wrapNone _ _ _)
  · simp only [if_true]
    rw [ih.closer false _ (hS.pushDef _) hwb (by simp) hk, enterCommand_endDef cfg _ false c.toCmd _ _ hc rfl]
    exact congrArg Except.ok ((wrapSome _ hS _ _ _).trans (by rw [defEntry_eq]))

theorem run_block (impl : Option Call)
    (ih : BodyOKS cfg body) (inClass p : Bool) (st : AggState) (hinv : InvA st)
    (hp : st.awaiting.isSome = true → p = true)
    (hwf : (Item.block doc o body c).wfS inClass p = true)
    (hcls : inClass = true → st.classStack ≠ [])
    (hk : cfg.inclCppClass = true ∨ (Item.block doc o body c).hasDocumentedClass = false) :
    (Item.block doc o body c).events.foldlM (step cfg) st =
      .ok (post (claimedAny cfg st (some o)) (Item.block doc o body c).cpaDirect
        ((Item.block doc o body c).specS cfg (ctxOf st.classStack) st.awaiting.isSome impl)) := by
  have hkb := k1_block hk
  rw [Item.events]
  rcases wfS_block_cases hwf with ⟨hn, hc, hl, hwb⟩ | h
  · -- a definition
    rw [run_def cfg doc o body c ih st hinv hn hc hl hwb hkb, cpaDirect_block_def hn,
      specS_block_def cfg doc o body c _ _ impl hn]
  -- the other blocks do not stand between a declaration and its definition
  have ha := awaiting_none_of hp (h.elim (·.1) (·.1))
  replace hinv := hinv.inv ha
  rw [claimedAny_none ha, ha, Option.isSome_none]
  rcases h with ⟨-, hn, hc, hl, hwb⟩ | ⟨-, hloop, hc, hwb⟩
  · rw [List.foldlM_cons, cpaDirect_block_through (.inr hn), specS_block_class cfg doc o body c _ false impl hn]
    cases hflag : cfg.inclCppClass
    · -- cpp_class left out, and by the K1 guard undocumented: a frame without an entry
      obtain ⟨rfl, -⟩ : doc = none ∧ itemsHaveDocumentedClass body = false := by
        simpa [hflag, Item.hasDocumentedClass, hn] using hk
      rw [step_docEvent_none, enterCommand_class cfg st false o.toCmd hn, if_pos hflag, except_ok_bind,
        ih.closer true _ hinv.pushClsNone hwb (by simp) hkb, enterCommand_endClass cfg _ false c.toCmd _ _ hc rfl]
      exact congrArg Except.ok (wrapClsHidden st _ _)
    · -- cpp_class with an entry: the body runs in the frame of that entry
      rw [step_class_shown cfg st doc o hn hflag, processCppClass_eq st o _ hl, except_ok_bind,
        ih.closer true _ (hinv.pushCls _ _) hwb (by simp) hkb, enterCommand_endClass cfg _ false c.toCmd _ _ hc rfl,
        Bool.or_true, if_pos rfl]
      exact congrArg Except.ok (wrapCls st hinv _ _ _ _ _)
  · -- if / foreach / while: a generic entry if documented, the body in the same frame
    obtain ⟨hs, hp, hnf, hnm, hncl⟩ := isLoopName_facts hloop
    obtain ⟨hsc, hpc⟩ := loopCloser_facts hc
    rw [List.foldlM_cons, step_generic cfg st doc o hs hp, except_ok_bind,
      ih.closer inClass _ (hinv.post _ _) hwb hcls hkb,
      enterCommand_plain cfg _ false c.toCmd hsc (Or.inr (Or.inr hpc)), post_post hinv,
      cpaDirect_block_through (.inl hloop), specS_block_other cfg doc o body c _ false impl hnf hnm hncl]
    simp

end

/-! ## `Item.decl` = the declaration command followed at once by its undocumented definition -/

theorem specS_decl (cfg : Cfg) (ctx : ClsCtx) (doc : Option DocC) (d impl : Call) (body : List Item) (c : Call)
    (p : Bool) (x : Option Call) :
    (Item.decl doc d impl body c).specS cfg ctx p x =
      (if declShown cfg ctx doc d = true then declContrib cfg ctx doc d (some impl)
       else asDefinition cfg impl body) ++ itemsSpecS cfg ctx false body := by
  simp only [Item.specS, asDefinition]
  congr 1
  cases htest : (decide (d.lname = lit "ct_add_test") || decide (d.lname = lit "ct_add_section"))
  · cases hs : (decide (ctx = .shown) && (doc.isSome ||
        (if d.lname = lit "cpp_constructor" then cfg.inclCppConstructor else cfg.inclCppMember))) <;>
      simp [declContrib, declShown, htest, hs]
  · cases hs : (doc.isSome || (if d.lname = lit "ct_add_section" then cfg.inclCtAddSection else cfg.inclCtAddTest)) <;>
      simp [declContrib, declShown, htest, hs]

theorem run_decl (cfg : Cfg) (doc : Option DocC) (d impl : Call) (body : List Item) (c : Call)
    (x : Option Call) (ih : BodyOKS cfg body) (inClass p : Bool) (st : AggState) (hinv : InvA st)
    (hp : st.awaiting.isSome = true → p = true)
    (hwf : (Item.decl doc d impl body c).wfS inClass p = true)
    (hcls : inClass = true → st.classStack ≠ [])
    (hk : cfg.inclCppClass = true ∨ (Item.decl doc d impl body c).hasDocumentedClass = false) :
    (Item.decl doc d impl body c).events.foldlM (step cfg) st =
      .ok (post (claimedAny cfg st x) (Item.decl doc d impl body c).cpaDirect
        ((Item.decl doc d impl body c).specS cfg (ctxOf st.classStack) st.awaiting.isSome x)) := by
  simp only [Item.wfS, Bool.and_eq_true] at hwf
  obtain ⟨⟨⟨⟨⟨⟨hnp, hdn⟩, him⟩, hcl⟩, hil⟩, hif⟩, hwb⟩ := hwf
  simp only [Bool.or_eq_true, decide_eq_true_eq] at him hcl hil
  -- well formed only if no other declaration is without its definition: nothing is awaited
  have ha := awaiting_none_of hp (by simpa using hnp)
  replace hinv := hinv.inv ha
  rw [claimedAny_none ha]
  have hkb : cfg.inclCppClass = true ∨ itemsHaveDocumentedClass body = false := by
    simpa [Item.hasDocumentedClass] using hk
  have hev : (Item.decl doc d impl body c).events =
      docEvent doc d :: docEvent none impl :: (itemsEvents body ++ [Event.cmd c.toCmd]) := rfl
  have hcpa : (Item.decl doc d impl body c).cpaDirect = false := rfl
  rw [hev, List.foldlM_cons, hcpa, specS_decl cfg _ doc d impl body c _ x]
  obtain ⟨s1, hstep, hD⟩ := step_decl cfg doc d inClass st hinv hdn hif hcls
  rw [hstep, except_ok_bind, run_def cfg none impl body c ih s1 hD.inv him hcl hil hwb hkb, hD.done,
    post_post hinv, hD.cs, hD.aw]
  cases hsh : declShown cfg (ctxOf st.classStack) doc d <;> simp [declContrib, asDefinition, hsh]

/-! ## the induction over item lists: `ItemsOKS` -/

/-- The statement of the induction, for the rest `items` of a list, from a state `s` between two of its commands in
    which an entry may await its definition (`InvA`): the events of `items` lead to the state in which the first
    definition of `items` has completed what awaits (`claimedAny … (findImpl items)`), with the contribution of `items`
    applied.  Two flags say that a declaration in front of `items` is without its definition.  `p`, the flag of
    `itemsWfS` (`Item.pendWf`), says it of any declaration; `s.awaiting.isSome`, which stands here for the flag of
    `itemsSpecS` (`Item.pendS`), says it of a declaration that is shown: only that one has an entry, and the listener
    awaits its definition.  The second implies the first, which is the hypothesis `s.awaiting.isSome = true → p = true`. -/
def ItemsOKS (cfg : Cfg) (items : List Item) : Prop :=
  ∀ (inClass p : Bool) (s : AggState), InvA s → (s.awaiting.isSome = true → p = true) →
    itemsWfS inClass p items = true → (inClass = true → s.classStack ≠ []) →
    (cfg.inclCppClass = true ∨ itemsHaveDocumentedClass items = false) →
    (itemsEvents items).foldlM (step cfg) s =
      .ok (post (claimedAny cfg s (findImpl items)) (itemsCpaDirect items)
            (itemsSpecS cfg (ctxOf s.classStack) s.awaiting.isSome items))

theorem ItemsOKS.frame {cfg : Cfg} {items : List Item} (h : ItemsOKS cfg items) (inClass p : Bool) (st : AggState)
    (hinv : Inv st) (hwf : itemsWfS inClass p items = true) (hcls : inClass = true → st.classStack ≠ [])
    (hk : cfg.inclCppClass = true ∨ itemsHaveDocumentedClass items = false) :
    (itemsEvents items).foldlM (step cfg) st =
      .ok (post st (itemsCpaDirect items) (itemsSpecS cfg (ctxOf st.classStack) false items)) := by
  have := h inClass p st hinv.toA (by simp [hinv.aw]) hwf hcls hk
  rwa [claimedAny_none hinv.aw, hinv.aw] at this

theorem ItemsOKS.body {cfg : Cfg} {items : List Item} (h : ItemsOKS cfg items) : BodyOKS cfg items :=
  fun inClass st => h.frame inClass false st

/-- the induction hypothesis an item provides: its body is fine -/
def ItemOKS (cfg : Cfg) : Item → Prop
  | .block _ _ body _ => BodyOKS cfg body
  | .decl _ _ _ body _ => BodyOKS cfg body
  | _ => True

theorem itemsOKS_nil (cfg : Cfg) : ItemsOKS cfg [] := by
  intro inClass p s _ hp hwf _ _
  have ha := awaiting_none_of hp (by simpa [itemsWfS] using hwf)
  simp only [itemsEvents, itemsCpaDirect, itemsSpecS, claimedAny_none ha, post_empty]
  rfl

theorem step_dangling (cfg : Cfg) (st : AggState) : step cfg st .dangling = .ok st := rfl

theorem itemsOKS_cons (cfg : Cfg) (i : Item) (is : List Item) (h1 : ItemOKS cfg i) (h2 : ItemsOKS cfg is) :
    ItemsOKS cfg (i :: is) := by
  intro inClass p s hinv hp hwf hcls hk
  simp only [itemsWfS, Bool.and_eq_true] at hwf
  obtain ⟨hwi, hwis⟩ := hwf
  obtain ⟨hk1, hk2⟩ := k1_cons hk
  have hS := hinv.claimedAny cfg
  rw [itemsEvents, List.foldlM_append]
  simp only [itemsSpecS, itemsCpaDirect]
  cases i with
  | cmd doc call =>
    rw [Item.events, foldlM_single]
    cases hdn : isDeclName call.lname
    · -- an ordinary single command commutes with the completion of what awaits
      simp only [Item.wfS, hdn, Bool.false_eq_true, if_false] at hwi
      have hwis' : itemsWfS inClass p is = true := by simpa [Item.pendWf, hdn] using hwis
      rw [step_cmd_spec cfg doc call inClass s hwi hcls, except_ok_bind,
        h2 inClass p _ (hinv.post _ _) hp hwis' hcls hk2,
        claimedAny_post hinv _ _ (spec_cmd_no_members cfg _ doc call), post_post (hS _)]
      simp [Item.specS, Item.pendS, findImpl, Item.implOpener, hdn]
    · -- a declaration: no other is without its definition
      simp only [Item.wfS, hdn, if_true, Bool.and_eq_true, Bool.not_eq_true'] at hwi
      have ha := awaiting_none_of hp hwi.1
      replace hinv := hinv.inv ha
      have hcpa : (Item.cmd doc call).cpaDirect = false := by
        rcases (isDeclName_iff _).1 hdn with h | h | h | h <;> simp [Item.cpaDirect, h]
      have hwis' : itemsWfS inClass true is = true := by simpa [Item.pendWf, hdn] using hwis
      obtain ⟨s1, hstep, hD⟩ := step_decl cfg doc call inClass s hinv hdn hwi.2 hcls
      rw [hstep, except_ok_bind, h2 inClass true s1 hD.inv (fun _ => rfl) hwis' (hD.cs ▸ hcls) hk2, hD.done,
        post_post hinv, hD.cs, hD.aw, hcpa, claimedAny_none ha, ha]
      simp [Item.specS, Item.pendS, hdn]
  | block doc o body c =>
    rw [run_block cfg doc o body c (findImpl is) h1 inClass p s hinv hp hwi hcls hk1, except_ok_bind,
      h2 inClass _ _ ((hS _).post _ _).toA (by simp) hwis (by simpa using hcls) hk2, claimedAny_none (by simp),
      post_post (hS _)]
    simp only [Item.wfS, Bool.and_eq_true, Bool.or_eq_true, Bool.not_eq_true'] at hwi
    obtain ⟨⟨⟨hdef | hp0, -⟩, -⟩, -⟩ := hwi
    · -- a definition: the one that completes what awaits
      simp [findImpl, Item.implOpener, Item.pendS, hdef]
    · -- any other block: nothing is awaited
      have ha := awaiting_none_of hp hp0
      simp [claimedAny_none ha, Item.pendS, ha]
  | decl doc d impl body c =>
    rw [run_decl cfg doc d impl body c (findImpl is) h1 inClass p s hinv hp hwi hcls hk1, except_ok_bind,
      h2 inClass _ _ ((hS _).post _ _).toA (by simp) hwis (by simpa using hcls) hk2, claimedAny_none (by simp),
      post_post (hS _)]
    simp [Item.pendS, findImpl, Item.implOpener]
  | dangling d =>
    rw [Item.events, foldlM_single, step_dangling, except_ok_bind, h2 inClass _ s hinv hp hwis hcls hk2]
    simp [Item.specS, Item.pendS, Item.cpaDirect, findImpl, Item.implOpener]

mutual
theorem seq_itemOK_all (cfg : Cfg) : (it : Item) → ItemOKS cfg it
  | .cmd _ _ => trivial
  | .block _ _ body _ => (itemsOKS_all cfg body).body
  | .decl _ _ _ body _ => (itemsOKS_all cfg body).body
  | .dangling _ => trivial
theorem itemsOKS_all (cfg : Cfg) : (items : List Item) → ItemsOKS cfg items
  | [] => itemsOKS_nil cfg
  | i :: is => itemsOKS_cons cfg i is (seq_itemOK_all cfg i) (itemsOKS_all cfg is)
end

end Cminx
