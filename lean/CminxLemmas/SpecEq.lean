import CminxModel.Spec
import CminxLemmas.StrLemmas
/-!
The equations of the structural specification (`CminxModel/Spec.lean`): `Contrib` under `++`, and what `Item.spec`
says of a command, block or declaration of each kind, for any configuration, written with `asDefinition` and
`methodOf`, which name two subterms of `Item.spec` on a declaration; `signature_eq`, which writes `signature`
(`CminxModel/DocTypes.lean`) with string literals; `mkCall`/`mkDoc`, with which the examples write their items.
-/
namespace Cminx

/-! ## `Contrib` -/

@[simp] theorem Contrib.append_top (a b : Contrib) : (a ++ b).top = a.top ++ b.top := rfl
@[simp] theorem Contrib.append_inner (a b : Contrib) : (a ++ b).inner = a.inner ++ b.inner := rfl
@[simp] theorem Contrib.append_ctors (a b : Contrib) : (a ++ b).ctors = a.ctors ++ b.ctors := rfl
@[simp] theorem Contrib.append_members (a b : Contrib) : (a ++ b).members = a.members ++ b.members := rfl
@[simp] theorem Contrib.append_attrs (a b : Contrib) : (a ++ b).attrs = a.attrs ++ b.attrs := rfl

theorem Contrib.ext {a b : Contrib} (h1 : a.top = b.top) (h2 : a.inner = b.inner) (h3 : a.ctors = b.ctors)
    (h4 : a.members = b.members) (h5 : a.attrs = b.attrs) : a = b := by
  cases a; cases b; simp_all

@[simp] theorem Contrib.empty_append (a : Contrib) : ({} : Contrib) ++ a = a := by
  apply Contrib.ext <;> simp
@[simp] theorem Contrib.append_empty (a : Contrib) : a ++ ({} : Contrib) = a := by
  apply Contrib.ext <;> simp

theorem Contrib.append_assoc (a b c : Contrib) : a ++ b ++ c = a ++ (b ++ c) := by
  apply Contrib.ext <;> simp

/-! ## `Item.spec` by kind -/

/-- the contribution of a member/test implementation whose declaration has no entry: an ordinary undocumented
    definition -/
def asDefinition (cfg : Cfg) (impl : Call) (body : List Item) : Contrib :=
  if (if impl.lname = lit "macro" then cfg.inclMacro else cfg.inclFunction) then
    { top := [defEntry cfg (impl.lname = lit "macro") none impl body] } else {}

/-- the `Method` a member/constructor declaration and its implementing definition describe -/
def methodOf (cfg : Cfg) (doc : Option DocC) (d impl : Call) (isCtor : Bool) : Method :=
  { name := d.singles.headD [], doc := docTextOf doc, parentClass := d.singles.getD 1 [],
    paramTypes := d.singles.drop 2, params := (impl.singles.map cfg.stripMember).drop 2, isCtor,
    isMacro := impl.lname = lit "macro" }

theorem methodOf_doc (cfg : Cfg) (doc : Option DocC) (d impl : Call) (isCtor : Bool) :
    (methodOf cfg doc d impl isCtor).doc = docTextOf doc := rfl

/-! The kind is read off the lower-cased name; `simp` settles the name comparisons by `lit_inj`. -/

section
variable (cfg : Cfg) (ctx : ClsCtx) (doc : Option DocC)

/-! ### single commands -/

section
variable (call : Call)

theorem spec_cmd_set (hn : call.lname = lit "set") :
    (Item.cmd doc call).spec cfg ctx =
      if doc.isSome then
        { top := [match call.singles with
            | [name] => .var name (docTextOf doc) .unset none
            | [name, v] => .var name (docTextOf doc) .string (some (unquote v))
            | name :: vs => .var name (docTextOf doc) .list (some (joinWith [' '] vs))
            | [] => .var [] (docTextOf doc) .unset none] }
      else {} := by
  simp only [Item.spec, hn, if_true]
  rfl

theorem spec_cmd_option (hn : call.lname = lit "option") :
    (Item.cmd doc call).spec cfg ctx =
      if doc.isSome = true ∨ cfg.inclOption = true then
        { top := [.opt (call.singles.headD []) (docTextOf doc) (call.singles.getD 1 []) call.singles[2]?] } else {} := by
  simp [Item.spec, hn]

theorem spec_cmd_add_test (hn : call.lname = lit "add_test") :
    (Item.cmd doc call).spec cfg ctx =
      if doc.isSome = true ∨ cfg.inclAddTest = true then
        { top := [.ctest (nameOf call.allTexts).1 (docTextOf doc) (ctestParams call.allTexts)] } else {} := by
  simp [Item.spec, hn]

theorem spec_cmd_attr (hn : call.lname = lit "cpp_attr") :
    (Item.cmd doc call).spec cfg ctx =
      if ctx = .shown ∧ (doc.isSome = true ∨ cfg.inclCppAttr = true) then
        { attrs := [{ name := call.singles.getD 1 [], doc := docTextOf doc, parentClass := call.singles.headD [],
                      dflt := call.singles[2]? }] } else {} := by
  simp [Item.spec, hn]

theorem spec_cmd_cpa (hn : call.lname = lit "cmake_parse_arguments") : (Item.cmd doc call).spec cfg ctx = {} := by
  simp [Item.spec, hn]

theorem spec_cmd_generic (h1 : call.lname ≠ lit "set") (h2 : call.lname ≠ lit "option") (h3 : call.lname ≠ lit "add_test")
    (h4 : call.lname ≠ lit "cpp_attr") (h5 : call.lname ≠ lit "cmake_parse_arguments") :
    (Item.cmd doc call).spec cfg ctx =
      if doc.isSome then { top := [.generic call.lname (docTextOf doc) (argTexts call.toCmd.args)] } else {} := by
  simp [Item.spec, h1, h2, h3, h4, h5]

end

/-! ### blocks -/

section
variable (o : Call) (body : List Item) (c : Call)

theorem spec_block_def (isMacro : Bool) (hn : o.lname = if isMacro then lit "macro" else lit "function") :
    (Item.block doc o body c).spec cfg ctx =
      (if doc.isSome = true ∨ (if isMacro then cfg.inclMacro else cfg.inclFunction) = true then
        { top := [defEntry cfg isMacro doc o body] } else {}) ++ itemsSpec cfg ctx body := by
  cases isMacro
  · simp [Item.spec, hn]
  · simp [Item.spec, hn]

theorem spec_block_class (hn : o.lname = lit "cpp_class") :
    (Item.block doc o body c).spec cfg ctx =
      if doc.isSome = true ∨ cfg.inclCppClass = true then
        { top := .cls (o.singles.headD []) (docTextOf doc) (o.singles.drop 1) (itemsSpec cfg .shown body).inner
                   (itemsSpec cfg .shown body).ctors (itemsSpec cfg .shown body).members
                   (itemsSpec cfg .shown body).attrs :: (itemsSpec cfg .shown body).top,
          inner := if ctx = .shown then [o.singles.headD []] else [] }
      else { top := (itemsSpec cfg .hidden body).top } := by
  simp [Item.spec, hn]

theorem spec_block_other (h1 : o.lname ≠ lit "function") (h2 : o.lname ≠ lit "macro") (h3 : o.lname ≠ lit "cpp_class") :
    (Item.block doc o body c).spec cfg ctx =
      (if doc.isSome then { top := [.generic o.lname (docTextOf doc) (argTexts o.toCmd.args)] } else {}) ++
        itemsSpec cfg ctx body := by
  simp [Item.spec, h1, h2, h3]

end

/-! ### a declaration with its implementing definition -/

section
variable (d impl : Call) (body : List Item) (c : Call)

theorem spec_decl_test (isSection : Bool) (hn : d.lname = if isSection then lit "ct_add_section" else lit "ct_add_test") :
    (Item.decl doc d impl body c).spec cfg ctx =
      (if doc.isSome = true ∨ (if isSection then cfg.inclCtAddSection else cfg.inclCtAddTest) = true then
        { top := [.test isSection (nameOf d.singles).1 (docTextOf doc) (d.singles.contains (lit "EXPECTFAIL"))
                  (impl.singles.drop 2) (impl.lname = lit "macro")] }
       else asDefinition cfg impl body) ++ itemsSpec cfg ctx body := by
  cases isSection
  · simp [Item.spec, hn, asDefinition]
  · simp [Item.spec, hn, asDefinition]

theorem spec_decl_memberlike (h1 : d.lname ≠ lit "ct_add_test") (h2 : d.lname ≠ lit "ct_add_section") :
    (Item.decl doc d impl body c).spec cfg ctx =
      (if ctx = .shown ∧ (doc.isSome = true ∨
            (if d.lname = lit "cpp_constructor" then cfg.inclCppConstructor else cfg.inclCppMember) = true) then
         (if d.lname = lit "cpp_constructor" then { ctors := [methodOf cfg doc d impl true] }
          else { members := [methodOf cfg doc d impl false] })
       else asDefinition cfg impl body) ++ itemsSpec cfg ctx body := by
  by_cases hc : d.lname = lit "cpp_constructor"
  · simp [Item.spec, hc, asDefinition, methodOf]
  · simp [Item.spec, h1, h2, hc, asDefinition, methodOf]

theorem spec_decl_member (isCtor : Bool) (hn : d.lname = if isCtor then lit "cpp_constructor" else lit "cpp_member") :
    (Item.decl doc d impl body c).spec cfg ctx =
      (if ctx = .shown ∧ (doc.isSome = true ∨ (if isCtor then cfg.inclCppConstructor else cfg.inclCppMember) = true) then
        (if isCtor then { ctors := [methodOf cfg doc d impl true] } else { members := [methodOf cfg doc d impl false] })
       else asDefinition cfg impl body) ++ itemsSpec cfg ctx body := by
  cases isCtor
  · rw [spec_decl_memberlike cfg ctx doc d impl body c (by simp [hn]) (by simp [hn])]
    simp [hn]
  · rw [spec_decl_memberlike cfg ctx doc d impl body c (by simp [hn]) (by simp [hn])]
    simp [hn]

end

end

theorem spec_dangling (cfg : Cfg) (ctx : ClsCtx) (d : DocC) : (Item.dangling d).spec cfg ctx = {} := by
  simp [Item.spec]

/-! ## `signature` (`CminxModel/DocTypes.lean`) -/

theorem signature_eq (name : Str) (params : List Str) :
    signature name params = name ++ lit "(" ++ joinWith [' '] params ++ lit ")" := by
  -- `lit_ofList` (`StrLemmas.lean`) with the characters given: the literal turns into them by unification
  rw [lit_ofList ['('], lit_ofList [')'], signature]
  simp

/-! ## writing items in examples -/

/-- a command `name(arg …)` with bare arguments, on its own line -/
def mkCall (name : String) (args : List String) : Call :=
  { pre := [.nl false], name := name.toList, sp := 0,
    args := args.map (fun a => SArg.tok [.spaces 1] (.bare a.toList)), close := [] }

/-- a doccomment with `# `-led body lines -/
def mkDoc (openSuffix : String) (lines : List String) : DocC :=
  { pre := [.nl false], ind := [], openSuffix := openSuffix.toList, lines := lines.map String.toList,
    leader := true, crlf := false }

end Cminx
