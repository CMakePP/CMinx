import CminxModel.Str
/-!
What the Python string operations of `Str.lean` do, one section per definition.
-/
namespace Cminx

/-! ## `lit`

A string literal unifies with `String.ofList [c₁, …]` by literal expansion, without evaluating `String.toList`
(which decodes the UTF-8 bytes of the literal and is slow in `whnf` and in the kernel).  These lemmas are the way
to compare `lit "…"` with a list of characters: the character list is found by unification.  A closed fact about
example data is cheapest as `unfold` the example, `repeat rw [lit_ofList]` (one rewrite per distinct literal),
`decide +kernel`: the kernel then meets characters only. -/

theorem lit_ofList (l : List Char) : lit (String.ofList l) = l := String.toList_ofList

/-- With this, `simp` settles `lit "a" = lit "b"` between literals by its `String` simprocs, which compare the
literals structurally and decode nothing. -/
@[simp] theorem lit_inj {a b : String} : lit a = lit b ↔ a = b := String.toList_inj

theorem eq_lit_of {s : Str} {l : List Char} (h : s = l) : s = lit (String.ofList l) :=
  h.trans (lit_ofList l).symm

theorem lit_of {P : Str → Prop} {l : List Char} (h : P l) : P (lit (String.ofList l)) := by
  rwa [lit_ofList]

theorem not_mem_lit_of {c : Char} {l : List Char} (h : c ∉ l) : c ∉ lit (String.ofList l) :=
  lit_of (P := (c ∉ ·)) h

/-! ## `joinWith`, `joinNl` -/

@[simp] theorem joinWith_nil (sep : Str) : joinWith sep [] = [] := rfl
@[simp] theorem joinWith_singleton (sep l : Str) : joinWith sep [l] = l := rfl

theorem joinWith_cons_cons (sep a b : Str) (l : List Str) :
    joinWith sep (a :: b :: l) = a ++ sep ++ joinWith sep (b :: l) := rfl

theorem joinWith_cons_ne (sep a : Str) (l : List Str) (h : l ≠ []) :
    joinWith sep (a :: l) = a ++ sep ++ joinWith sep l := by
  cases l with
  | nil => exact absurd rfl h
  | cons b l => rfl

theorem joinWith_append (sep : Str) (a b : List Str) (ha : a ≠ []) (hb : b ≠ []) :
    joinWith sep (a ++ b) = joinWith sep a ++ sep ++ joinWith sep b := by
  induction a with
  | nil => exact absurd rfl ha
  | cons x a ih =>
    by_cases h : a = []
    · rw [h, List.singleton_append, joinWith_cons_ne _ _ _ hb, joinWith_singleton]
    · rw [List.cons_append, joinWith_cons_ne _ _ _ (by simp [h]), ih h, joinWith_cons_ne _ _ _ h]
      simp only [List.append_assoc]

theorem joinWith_snoc (sep : Str) (ns : List Str) (l : Str) : ∃ pre, joinWith sep (ns ++ [l]) = pre ++ l := by
  by_cases h : ns = []
  · exact ⟨[], by rw [h, List.nil_append, joinWith_singleton, List.nil_append]⟩
  · exact ⟨joinWith sep ns ++ sep, by rw [joinWith_append sep ns [l] h (by simp), joinWith_singleton]⟩

theorem not_mem_joinWith {c : Char} {sep : Str} (hs : c ∉ sep) :
    ∀ {xs : List Str}, (∀ a ∈ xs, c ∉ a) → c ∉ joinWith sep xs
  | [], _ => by simp
  | [l], h => by simpa using h
  | l :: l' :: ls, h => by
    have ih := not_mem_joinWith hs (xs := l' :: ls) (fun a ha => h a (List.mem_cons_of_mem _ ha))
    simp [joinWith_cons_cons, h l, hs, ih]

theorem joinNl_singleton (l : Str) : joinNl [l] = l := rfl

theorem joinNl_cons (l : Str) {ls : List Str} (h : ls ≠ []) :
    joinNl (l :: ls) = l ++ '\n' :: joinNl ls := by
  simp [joinNl, joinWith_cons_ne _ _ _ h]

/-! ## `splitNl` -/

theorem splitNl_ne_nil (s : Str) : splitNl s ≠ [] := by
  cases s with
  | nil => simp [splitNl]
  | cons c cs =>
    unfold splitNl
    split
    · simp
    · split <;> simp

@[simp] theorem splitNl_nil : splitNl [] = [[]] := rfl

@[simp] theorem splitNl_cons_nl (cs : Str) : splitNl ('\n' :: cs) = [] :: splitNl cs := by
  simp [splitNl]

/-- the second equation of `splitNl` without its unreachable branch -/
theorem splitNl_cons_of_ne {c : Char} (h : c ≠ '\n') (cs : Str) :
    splitNl (c :: cs) = (c :: (splitNl cs).headD []) :: (splitNl cs).tail := by
  obtain ⟨l, ls, hs⟩ := List.exists_cons_of_ne_nil (splitNl_ne_nil cs)
  simp [splitNl, h, hs]

/-- induction along the equations of `splitNl`, without the unreachable branch -/
theorem splitNl_induction {motive : Str → Prop} (nil : motive []) (nl : ∀ cs, motive cs → motive ('\n' :: cs))
    (char : ∀ c cs l ls, c ≠ '\n' → splitNl cs = l :: ls → motive cs → motive (c :: cs)) (s : Str) : motive s :=
  splitNl.induct motive nil nl (fun c cs hc l ls => char c cs l ls hc)
    (fun _ cs _ h => absurd h (splitNl_ne_nil cs)) s

theorem splitNl_append_nl (a b : Str) : splitNl (a ++ '\n' :: b) = splitNl a ++ splitNl b := by
  induction a using splitNl_induction with
  | nil => simp
  | nl cs ih => simp [ih]
  | char c cs l ls hc hs ih => simp [splitNl_cons_of_ne hc, ih, hs]

theorem splitNl_of_noNl {l : Str} (h : '\n' ∉ l) : splitNl l = [l] := by
  induction l with
  | nil => rfl
  | cons c cs ih =>
    simp only [List.mem_cons, not_or] at h
    simp [splitNl_cons_of_ne (Ne.symm h.1), ih h.2]

theorem splitNl_noNl_append_nl {l : Str} (h : '\n' ∉ l) (rest : Str) :
    splitNl (l ++ '\n' :: rest) = l :: splitNl rest := by
  rw [splitNl_append_nl, splitNl_of_noNl h, List.singleton_append]

theorem noNl_of_mem_splitNl (s : Str) : ∀ l ∈ splitNl s, '\n' ∉ l := by
  induction s using splitNl_induction with
  | nil => simp
  | nl cs ih =>
    rw [splitNl_cons_nl]
    exact List.forall_mem_cons.2 ⟨List.not_mem_nil, ih⟩
  | char c cs l ls hc hs ih =>
    rw [hs] at ih
    rw [splitNl_cons_of_ne hc, hs]
    have ⟨h1, h2⟩ := List.forall_mem_cons.1 ih
    exact List.forall_mem_cons.2 ⟨by simp [Ne.symm hc, h1], h2⟩

theorem splitNl_flatten_map_nl (ls : List Str) (h : ∀ l ∈ ls, '\n' ∉ l) (rest : Str) :
    splitNl ((ls.map (· ++ ['\n'])).flatten ++ rest) = ls ++ splitNl rest := by
  induction ls with
  | nil => simp
  | cons l ls ih =>
    simp only [List.forall_mem_cons] at h
    simp [splitNl_noNl_append_nl h.1, ih h.2]

theorem splitNl_joinNl {ls : List Str} (hne : ls ≠ []) (h : ∀ l ∈ ls, '\n' ∉ l) :
    splitNl (joinNl ls) = ls := by
  induction ls with
  | nil => exact absurd rfl hne
  | cons l ls ih =>
    simp only [List.forall_mem_cons] at h
    by_cases hl : ls = []
    · simpa [hl, joinNl_singleton] using splitNl_of_noNl h.1
    · rw [joinNl_cons l hl, splitNl_noNl_append_nl h.1, ih hl h.2]

/-- the shape of every cleaned doc text: `"\n".join(lines + [""])` -/
theorem splitNl_joinNl_concat_nil {ls : List Str} (h : ∀ l ∈ ls, '\n' ∉ l) :
    splitNl (joinNl (ls ++ [[]])) = ls ++ [[]] :=
  splitNl_joinNl (by simp) (List.forall_mem_append.2 ⟨h, by simp⟩)

theorem joinNl_splitNl_id (s : Str) : joinNl (splitNl s) = s := by
  induction s using splitNl_induction with
  | nil => rfl
  | nl cs ih => rw [splitNl_cons_nl, joinNl_cons _ (splitNl_ne_nil cs), ih, List.nil_append]
  | char c cs l ls hc hs ih =>
    rw [hs] at ih
    rw [splitNl_cons_of_ne hc, hs, ← ih]
    cases ls <;> rfl

/-! ## `lstripSet`, `lstripWs`, `rstripWs`, `stripWs` -/

theorem lstripSet_append_of_all {cs : List Char} {p : Str} (hp : ∀ c ∈ p, c ∈ cs) (s : Str) :
    lstripSet cs (p ++ s) = lstripSet cs s :=
  List.dropWhile_append_of_pos (by simpa using hp)

theorem lstripSet_cons_of_not_mem {cs : List Char} {c : Char} (hc : c ∉ cs) (l : Str) :
    lstripSet cs (c :: l) = c :: l := by
  simp [lstripSet, hc]

theorem lstripSet_of_head {cs : List Char} {s : Str} (h : ∀ c, s.head? = some c → c ∉ cs) :
    lstripSet cs s = s := by
  cases s with
  | nil => rfl
  | cons c l => exact lstripSet_cons_of_not_mem (h c rfl) l

theorem pyIsSpace_blank {c : Char} (h : c = ' ' ∨ c = '\t') : pyIsSpace c = true := by
  rcases h with rfl | rfl <;> decide

theorem lstripWs_append_of_all {p : Str} (hp : ∀ c ∈ p, pyIsSpace c = true) (s : Str) :
    lstripWs (p ++ s) = lstripWs s :=
  List.dropWhile_append_of_pos hp

theorem lstripWs_of_all {p : Str} (hp : ∀ c ∈ p, pyIsSpace c = true) : lstripWs p = [] := by
  simpa [lstripWs] using lstripWs_append_of_all hp []

theorem lstripWs_cons_of_not {c : Char} (hc : pyIsSpace c = false) (l : Str) : lstripWs (c :: l) = c :: l := by
  simp [lstripWs, hc]

theorem lstripWs_of_head {s : Str} (h : ∀ c, s.head? = some c → pyIsSpace c = false) : lstripWs s = s := by
  cases s with
  | nil => rfl
  | cons c l => exact lstripWs_cons_of_not (h c rfl) l

theorem rstripWs_of_getLast (p : Str) (h : ∀ c, p.getLast? = some c → pyIsSpace c = false) : rstripWs p = p := by
  show (lstripWs p.reverse).reverse = p
  rw [lstripWs_of_head (by rwa [List.head?_reverse]), List.reverse_reverse]

theorem rstripWs_prefix (p : Str) : rstripWs p <+: p := by
  unfold rstripWs
  have h : (List.dropWhile pyIsSpace p.reverse).reverse <+: p.reverse.reverse :=
    List.reverse_prefix.2 (List.dropWhile_suffix _)
  simpa using h

theorem stripWs_append_of_all {p : Str} (hp : ∀ c ∈ p, pyIsSpace c = true) (s : Str) :
    stripWs (p ++ s) = stripWs s := by
  simp [stripWs, lstripWs_append_of_all hp]

theorem stripWs_concat_of_ws {c : Char} (hc : pyIsSpace c = true) (x : Str) : stripWs (x ++ [c]) = stripWs x := by
  simp only [stripWs, lstripWs, rstripWs, List.dropWhile_append]
  split
  · rename_i h
    have : List.dropWhile pyIsSpace x = [] := by simpa using h
    simp [this, hc]
  · simp [hc]

/-! ## `isPrefixOf`, `isInfix` -/

/-- a character that does not occur in the pattern ends every attempt to match it -/
theorem isPrefixOf_append_cons {c : Char} {pat : Str} (hc : c ∉ pat) (s x : Str) :
    pat.isPrefixOf (s ++ c :: x) = pat.isPrefixOf s := by
  induction pat generalizing s with
  | nil => rfl
  | cons p ps ih =>
    simp only [List.mem_cons, not_or] at hc
    cases s with
    | nil => simp [List.isPrefixOf, Ne.symm hc.1]
    | cons a s => simp [List.isPrefixOf, ih hc.2]

theorem isPrefixOf_cons_nl_of_noNl {pat : Str} (h : '\n' ∉ pat) (s : Str) :
    pat.isPrefixOf ('\n' :: s) = pat.isEmpty := by
  rw [← List.nil_append ('\n' :: s), isPrefixOf_append_cons h]
  cases pat <;> rfl

theorem isInfix_nil (s : Str) : isInfix [] s = true := by
  cases s <;> simp [isInfix]

theorem isInfix_iff {pat s : Str} : isInfix pat s = true ↔ pat <:+: s := by
  induction s with
  | nil => simp [isInfix]
  | cons c cs ih => simp [isInfix, List.infix_cons_iff, ih]

theorem isInfix_of_not_mem {pat s : Str} {c : Char} (hc : c ∈ pat) (hs : c ∉ s) : isInfix pat s = false := by
  rw [← Bool.not_eq_true, isInfix_iff]
  exact fun h => hs (h.subset hc)

theorem isInfix_append_cons {pat a b : Str} {e : Char} (he : e ∉ pat) (ha : isInfix pat a = false)
    (hb : isInfix pat b = false) : isInfix pat (a ++ e :: b) = false := by
  induction a with
  | nil =>
    rw [List.nil_append, isInfix, hb, ← List.nil_append (e :: b), isPrefixOf_append_cons he]
    cases pat <;> exact ha
  | cons x a ih =>
    simp only [isInfix, Bool.or_eq_false_iff] at ha
    rw [List.cons_append, isInfix, ← List.cons_append, isPrefixOf_append_cons he, ha.1, ih ha.2]
    rfl

/-! ## `replaceAll` -/

section ReplaceAll
variable (pat rep : Str)

theorem replaceAux_succ (hp : pat ≠ []) (f : Nat) (s : Str) (h : s.length ≤ f) :
    replaceAux pat rep (f + 1) s = replaceAux pat rep f s := by
  induction f, s using replaceAux.induct pat with
  | case1 s => cases s <;> simp_all [replaceAux]
  | case2 f hf => cases f <;> rfl
  | case3 f c cs hpre ih =>
    have hlen : 0 < pat.length := List.length_pos_iff.mpr hp
    rw [replaceAux, if_pos hpre, ih (by simp only [List.length_drop, List.length_cons] at h ⊢; omega), replaceAux,
      if_pos hpre]
  | case4 f c cs hpre ih => rw [replaceAux, if_neg hpre, ih (by simpa using h), replaceAux, if_neg hpre]

theorem replaceAux_fuel (hp : pat ≠ []) (fuel : Nat) (s : Str) (h : s.length ≤ fuel) :
    replaceAux pat rep fuel s = replaceAux pat rep s.length s := by
  induction h with
  | refl => rfl
  | step h ih => rw [replaceAux_succ pat rep hp _ s h, ih]

theorem replaceAll_of_ne_nil (s : Str) (hp : pat ≠ []) : replaceAll pat rep s = replaceAux pat rep s.length s := by
  have : pat.isEmpty = false := by cases pat <;> simp_all
  simp [replaceAll, this]

theorem replaceAll_nil (hp : pat ≠ []) : replaceAll pat rep [] = [] := by
  rw [replaceAll_of_ne_nil _ _ _ hp]
  rfl

theorem replaceAll_cons_of_not_prefix (c : Char) (cs : Str) (hp : pat ≠ [])
    (h : pat.isPrefixOf (c :: cs) = false) :
    replaceAll pat rep (c :: cs) = c :: replaceAll pat rep cs := by
  rw [replaceAll_of_ne_nil _ _ _ hp, replaceAll_of_ne_nil _ _ _ hp]
  simp [replaceAux, h]

theorem replaceAll_pat_append (s : Str) (hp : pat ≠ []) :
    replaceAll pat rep (pat ++ s) = rep ++ replaceAll pat rep s := by
  obtain ⟨p, ps, rfl⟩ := List.exists_cons_of_ne_nil hp
  have hpre : (p :: ps).isPrefixOf (p :: (ps ++ s)) = true := by simp
  rw [replaceAll_of_ne_nil _ _ _ hp, replaceAll_of_ne_nil _ _ _ hp, List.cons_append, List.length_cons, replaceAux,
    if_pos hpre, ← List.cons_append, List.drop_left, replaceAux_fuel _ rep hp _ s (by simp)]

theorem replaceAll_append_of_not_head (b s : Str) (hp : pat ≠ []) (hb : ∀ c ∈ b, pat.head? ≠ some c) :
    replaceAll pat rep (b ++ s) = b ++ replaceAll pat rep s := by
  obtain ⟨p, ps, rfl⟩ := List.exists_cons_of_ne_nil hp
  induction b with
  | nil => rfl
  | cons c cs ih =>
    have hpc : p ≠ c := fun e => hb c (by simp) (by simp [e])
    rw [List.cons_append, replaceAll_cons_of_not_prefix _ rep c (cs ++ s) hp (by simp [List.isPrefixOf, hpc]),
      ih fun d hd => hb d (by simp [hd])]
    rfl

theorem replaceAll_of_not_infix (s : Str) (hp : pat ≠ []) (h : isInfix pat s = false) :
    replaceAll pat rep s = s := by
  induction s with
  | nil => exact replaceAll_nil pat rep hp
  | cons c cs ih =>
    simp only [isInfix, Bool.or_eq_false_iff] at h
    rw [replaceAll_cons_of_not_prefix pat rep c cs hp h.1, ih h.2]

theorem replaceAll_append_singleton (hp : pat ≠ []) {c : Char} (hc : c ∉ pat) (s : Str) :
    replaceAll pat rep (s ++ [c]) = replaceAll pat rep s ++ [c] := by
  -- by the equations above, on the length of `s`: a match at the head takes `pat` away, which is not empty
  induction hn : s.length using Nat.strongRecOn generalizing s with
  | ind n ih =>
    subst hn
    by_cases h : pat.isPrefixOf s = true
    · obtain ⟨t, rfl⟩ := List.isPrefixOf_iff_prefix.mp h
      have hlt : t.length < (pat ++ t).length := by
        have := List.length_pos_iff.mpr hp
        rw [List.length_append]
        omega
      rw [List.append_assoc, replaceAll_pat_append _ _ _ hp, replaceAll_pat_append _ _ _ hp, ih _ hlt t rfl,
        List.append_assoc]
    · have h' : pat.isPrefixOf (s ++ [c]) = false := by
        rwa [isPrefixOf_append_cons hc s [], ← Bool.not_eq_true]
      cases s with
      | nil =>
        rw [List.nil_append] at h' ⊢
        rw [replaceAll_cons_of_not_prefix _ _ _ _ hp h', replaceAll_nil _ _ hp]
        rfl
      | cons a as =>
        rw [List.cons_append] at h' ⊢
        rw [replaceAll_cons_of_not_prefix _ _ _ _ hp h',
          replaceAll_cons_of_not_prefix _ _ _ _ hp (Bool.not_eq_true _ ▸ h), ih _ (Nat.lt_succ_self _) as rfl]
        rfl

end ReplaceAll

/-! ## `stripWs (replaceAll pat [] ·)`: the form in which `moduleNameDoc` takes the module name from its line -/

theorem stripWs_replaceAll_ws_append {pat b : Str} (hp : pat ≠ [])
    (hh : ∀ c, pat.head? = some c → pyIsSpace c = false) (hb : ∀ c ∈ b, pyIsSpace c = true) (r : Str) :
    stripWs (replaceAll pat [] (b ++ (pat ++ r))) = stripWs (replaceAll pat [] r) := by
  have hhead : ∀ c ∈ b, pat.head? ≠ some c := fun c hc e => by simpa [hb c hc] using hh c e
  rw [replaceAll_append_of_not_head _ _ _ _ hp hhead, replaceAll_pat_append _ _ _ hp, List.nil_append,
    stripWs_append_of_all hb]

/-! ## `repeatStr`, `natStr` -/

theorem not_mem_repeatStr {c : Char} {s : Str} (h : c ∉ s) (n : Nat) : c ∉ repeatStr s n := by
  induction n with
  | zero => simp [repeatStr]
  | succ n ih => simp [repeatStr, h, ih]

theorem repeatStr_single_char (c : Char) (n : Nat) : repeatStr [c] n = List.replicate n c := by
  induction n with
  | zero => rfl
  | succ n ih => simp [repeatStr, ih, List.replicate_succ]

theorem noNl_replicate {n : Nat} {c : Char} (h : c ≠ '\n') : '\n' ∉ List.replicate n c := by
  intro hm
  exact h (List.eq_of_mem_replicate hm).symm

theorem natStr_noNl (n : Nat) : '\n' ∉ natStr n := by
  intro h
  have e : natStr n = Nat.toDigits 10 n := by simp [natStr, Nat.repr]
  rw [e] at h
  have := Nat.isDigit_of_mem_toDigits (by decide) (by decide) h
  exact absurd this (by decide)

/-! ## `lastD` -/

theorem lastD_append_singleton (ls : List Str) (l : Str) : lastD (ls ++ [l]) = l := by
  simp [lastD]

end Cminx
