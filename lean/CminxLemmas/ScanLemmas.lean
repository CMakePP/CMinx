import CminxLemmas.LexLemmas
/-!
# `scan` and `lexLoop`: which rule wins, and the loop without fuel

`candidates s` is the table `ruleScore k s` read in grammar order (the order of the constructors of `TokKind`), and
`scan` picks the entry with the highest score, the first one on ties.  Two facts carry everything that is proved about
`scan`: a rule answers only on an input whose first character it can start with (`ruleScore_starts`), and rule `k`
wins as soon as every other rule that answers scores less, or the same and is listed later (`scan_of_best`).
`Lexes` and `Reaches` describe the runs of `lexLoop` without fuel and positions.
-/
namespace Cminx

/-! ## the rule table by kind -/

def allKinds : List TokKind :=
  [.lparen, .rparen, .moduleDocstring, .docstring, .doccommentStart, .blockcommentEnd, .identifier, .unquoted,
   .escapeSequence, .quoted, .bracketArg, .bracketComment, .lineComment, .newline, .space]

def plainScore (o : Option Nat) : Option (Nat × Nat) := o.map (fun n => (2 * n, n))

/-- the entry of `candidates s` for rule `k`: (score, length) -/
def ruleScore : TokKind → Str → Option (Nat × Nat)
  | .lparen, s => plainScore (if s.head? == some '(' then some 1 else none)
  | .rparen, s => plainScore (if s.head? == some ')' then some 1 else none)
  | .moduleDocstring, s => plainScore (moduleDocstringLen s)
  | .docstring, s => plainScore (docstringLen s)
  | .doccommentStart, s => plainScore (doccommentStartLen s)
  | .blockcommentEnd, s => plainScore (blockcommentEndLen s)
  | .identifier, s => plainScore (identLen s)
  | .unquoted, s => plainScore (unquotedLen s)
  | .escapeSequence, s => plainScore (escapeLen s)
  | .quoted, s => plainScore (quotedLen s)
  | .bracketArg, s => plainScore (bracketLen s)
  | .bracketComment, s => plainScore (bracketCommentLen s)
  | .lineComment, s => (lineCommentLen s).map (fun (n, eof) => (2 * n + (if eof then 1 else 0), n))
  | .newline, s => plainScore (newlineLen s)
  | .space, s => plainScore (spaceLen s)

theorem candidates_eq (s : Str) : candidates s = allKinds.map (fun k => (k, ruleScore k s)) := rfl

theorem plainScore_eq_some {o : Option Nat} {sc n : Nat} : plainScore o = some (sc, n) ↔ o = some n ∧ sc = 2 * n := by
  cases o with
  | none => simp [plainScore]
  | some m =>
    simp only [plainScore, Option.map_some, Option.some.injEq, Prod.mk.injEq]
    constructor
    · rintro ⟨rfl, rfl⟩; exact ⟨rfl, rfl⟩
    · rintro ⟨rfl, rfl⟩; exact ⟨rfl, rfl⟩

theorem allKinds_sorted : allKinds.Pairwise (·.ctorIdx < ·.ctorIdx) := by decide

/-- the table around the row of `k`: the rules listed before it and those listed after it -/
theorem allKinds_split (k : TokKind) :
    ∃ pre post, allKinds = pre ++ k :: post ∧ (∀ k' ∈ pre, k'.ctorIdx < k.ctorIdx) ∧
      ∀ k' ∈ post, k.ctorIdx < k'.ctorIdx := by
  have hm : k ∈ allKinds := by cases k <;> decide
  obtain ⟨pre, post, h⟩ := List.append_of_mem hm
  have hs := allKinds_sorted
  rw [h, List.pairwise_append, List.pairwise_cons] at hs
  exact ⟨pre, post, h, fun k' hk' => hs.2.2 k' hk' k (by simp), hs.2.1.1⟩

/-! ## `pickBest` -/

section
variable (cs pre post : List (TokKind × Option (Nat × Nat))) (best : Option (TokKind × Nat × Nat))

theorem pickBest_mem (r : TokKind × Nat × Nat) (h : pickBest cs best = some r) :
    best = some r ∨ (r.1, some r.2) ∈ cs := by
  fun_induction pickBest cs best with
  | case1 best => exact Or.inl h
  | case2 k cs best ih => rcases ih h with h | h <;> simp [h]
  | case3 k sc len cs ih =>
    rcases ih h with h | h
    · right; simp at h; subst h; simp
    · simp [h]
  | case4 k sc len cs bk bsc blen hgt ih =>
    rcases ih h with h | h
    · right; simp at h; subst h; simp
    · simp [h]
  | case5 k sc len cs bk bsc blen hgt ih =>
    rcases ih h with h | h
    · left; exact h
    · simp [h]

theorem pickBest_append : pickBest (pre ++ post) best = pickBest post (pickBest pre best) := by
  fun_induction pickBest pre best with
  | case1 best => rfl
  | case2 k cs best ih => simpa [pickBest] using ih
  | case3 k sc len cs ih => simpa [pickBest] using ih
  | case4 k sc len cs bk bsc blen hgt ih => simpa [pickBest, hgt] using ih
  | case5 k sc len cs bk bsc blen hgt ih => simpa [pickBest, hgt] using ih

theorem pickBest_keep (b : TokKind × Nat × Nat)
    (h : ∀ k' sc' l', (k', some (sc', l')) ∈ cs → sc' ≤ b.2.1) : pickBest cs (some b) = some b := by
  induction cs with
  | nil => rfl
  | cons c cs ih =>
    obtain ⟨k, o⟩ := c
    obtain ⟨bk, bsc, blen⟩ := b
    have ih' := ih (fun k' sc' l' hm => h k' sc' l' (by simp [hm]))
    cases o with
    | none => simpa [pickBest] using ih'
    | some v =>
      obtain ⟨sc, len⟩ := v
      have : ¬ sc > bsc := by have := h k sc len (by simp); simp at this; omega
      simpa [pickBest, this] using ih'

theorem pickBest_split (k : TokKind) (sc n : Nat)
    (hpre : ∀ k' sc' l', (k', some (sc', l')) ∈ pre → sc' < sc)
    (hpost : ∀ k' sc' l', (k', some (sc', l')) ∈ post → sc' ≤ sc) :
    pickBest (pre ++ (k, some (sc, n)) :: post) none = some (k, sc, n) := by
  rw [pickBest_append]
  cases hb : pickBest pre none with
  | none => simpa [pickBest] using pickBest_keep post (k, sc, n) hpost
  | some b =>
    obtain ⟨bk, bsc, blen⟩ := b
    have hlt : sc > bsc := by
      rcases pickBest_mem _ _ _ hb with h | h
      · cases h
      · exact hpre bk bsc blen h
    simpa [pickBest, hlt] using pickBest_keep post (k, sc, n) hpost

end

/-! ## `scan` -/

section
variable {c : Char} {s : Str} {k : TokKind} {sc n : Nat}

theorem scan_rule (h : scan s = some (k, n)) :
    ∃ sc, ruleScore k s = some (sc, n) ∧ n ≠ 0 := by
  unfold scan at h
  split at h
  · rename_i k' sc len hp
    split at h
    · cases h
    · rename_i hlen
      cases h
      rcases pickBest_mem _ _ _ hp with h' | h'
      · cases h'
      · rw [candidates_eq] at h'
        simp only [List.mem_map, Prod.mk.injEq] at h'
        obtain ⟨k'', -, rfl, hs⟩ := h'
        exact ⟨sc, hs, hlen⟩
  · cases h

theorem scan_of_best (hk : ruleScore k s = some (sc, n)) (hn : n ≠ 0)
    (h : ∀ k' sc' n', k' ≠ k → ruleScore k' s = some (sc', n') → sc' < sc ∨ sc' = sc ∧ k.ctorIdx < k'.ctorIdx) :
    scan s = some (k, n) := by
  have hp : pickBest (candidates s) none = some (k, sc, n) := by
    obtain ⟨pre, post, hsplit, hpre, hpost⟩ := allKinds_split k
    rw [candidates_eq, hsplit, List.map_append, List.map_cons, hk]
    apply pickBest_split
    · intro k' sc' l' hm
      simp only [List.mem_map, Prod.mk.injEq] at hm
      obtain ⟨k'', hk'', rfl, hs⟩ := hm
      have hi := hpre _ hk''
      have := h _ _ _ (by rintro rfl; omega) hs
      omega
    · intro k' sc' l' hm
      simp only [List.mem_map, Prod.mk.injEq] at hm
      obtain ⟨k'', hk'', rfl, hs⟩ := hm
      have hi := hpost _ hk''
      have := h _ _ _ (by rintro rfl; omega) hs
      omega
  simp [scan, hp, hn]

/-- the condition of `scan_of_best` for a competitor that answers no further and is listed later (`ctorIdx` is the
position of a rule in the grammar) -/
theorem loses_of_le {k k' : TokKind} {n n' : Nat} (hn : n' ≤ n) (hi : k.ctorIdx < k'.ctorIdx) :
    2 * n' < 2 * n ∨ 2 * n' = 2 * n ∧ k.ctorIdx < k'.ctorIdx :=
  (Nat.lt_or_eq_of_le hn).imp (Nat.mul_lt_mul_of_pos_left · (by decide)) fun e => ⟨congrArg (2 * ·) e, hi⟩

theorem scan_none (h : ∀ k, ruleScore k s = none) : scan s = none := by
  cases hs : scan s with
  | none => rfl
  | some r =>
    obtain ⟨sc, hr, -⟩ := scan_rule (k := r.1) (n := r.2) hs
    rw [h] at hr
    cases hr

/-! ## the first character decides which rules can match -/

/-- the characters a match of the rule can begin with -/
def TokKind.starts : TokKind → Char → Bool
  | .lparen, c => c == '('
  | .rparen, c => c == ')'
  | .moduleDocstring, c | .docstring, c | .doccommentStart, c | .blockcommentEnd, c
  | .bracketComment, c | .lineComment, c => c == '#'
  | .identifier, c => identStart c
  | .unquoted, c => c == '\\' || !unqStop c
  | .escapeSequence, c => c == '\\'
  | .quoted, c => c == '"'
  | .bracketArg, c => c == '['
  | .newline, c => isEolCh c
  | .space, c => isBlank c

theorem ruleScore_nil (k : TokKind) : ruleScore k [] = none := by
  cases k <;> rfl

theorem ruleScore_starts {r : Nat × Nat} (h : ruleScore k (c :: s) = some r) : k.starts c = true := by
  cases hs : k.starts c with
  | true => rfl
  | false =>
    exfalso
    revert h
    cases k <;> simp only [TokKind.starts, Bool.or_eq_false_iff, beq_eq_false_iff_ne, ne_eq,
      Bool.not_eq_eq_eq_not, Bool.not_false] at hs
    case lparen => simp [ruleScore, plainScore, hs]
    case rparen => simp [ruleScore, plainScore, hs]
    case moduleDocstring =>
      simp [ruleScore, plainScore, moduleDocstringLen, docStart_eq, List.isPrefixOf_cons_cons, Ne.symm hs]
    case docstring => simp [ruleScore, plainScore, docstringLen, docStart_eq, List.isPrefixOf_cons_cons, Ne.symm hs]
    case doccommentStart =>
      simp [ruleScore, plainScore, doccommentStartLen, docStart_eq, List.isPrefixOf_cons_cons, Ne.symm hs]
    case blockcommentEnd =>
      simp [ruleScore, plainScore, blockcommentEndLen, docEnd_eq, List.isPrefixOf_cons_cons, Ne.symm hs]
    case identifier => simp [ruleScore, plainScore, identLen, hs]
    case unquoted => simp [ruleScore, plainScore, unquotedLen, unqLen_of_stop s hs.1 hs.2]
    case escapeSequence => simp [ruleScore, plainScore, escapeLen, hs]
    case quoted => simp [ruleScore, plainScore, quotedLen, hs]
    case bracketArg => simp [ruleScore, plainScore, bracketLen, hs]
    case bracketComment => simp [ruleScore, plainScore, bracketCommentLen, hs]
    case lineComment => simp [ruleScore, lineCommentLen, hs]
    case newline => simp [ruleScore, plainScore, newlineLen_eq, spanLen_cons, hs]
    case space => simp [ruleScore, plainScore, spaceLen_eq, spanLen_cons, hs]

theorem ruleScore_none_of_starts (s : Str) (h : k.starts c = false) :
    ruleScore k (c :: s) = none := by
  cases hr : ruleScore k (c :: s) with
  | none => rfl
  | some r => rw [ruleScore_starts hr] at h; cases h

theorem scan_none_of_starts
    (h : ∀ k, k.starts c = true → ruleScore k (c :: s) = none) : scan (c :: s) = none :=
  scan_none fun k => by
    cases hs : k.starts c with
    | true => exact h k hs
    | false => exact ruleScore_none_of_starts s hs

theorem scan_of_unique (hk : ruleScore k (c :: s) = some (sc, n)) (hn : n ≠ 0)
    (hu : ∀ k', k' ≠ k → k'.starts c = true → ruleScore k' (c :: s) = none) : scan (c :: s) = some (k, n) :=
  scan_of_best hk hn fun k' sc' n' hne hs => by
    rw [hu k' hne (ruleScore_starts hs)] at hs
    cases hs

theorem scan_of_only (hk : ruleScore k (c :: s) = some (sc, n))
    (hn : n ≠ 0) (hu : ∀ k', k'.starts c = true → k' = k) : scan (c :: s) = some (k, n) :=
  scan_of_unique hk hn fun k' hne h => absurd (hu k' h) hne

theorem scan_nil : scan [] = none := scan_none ruleScore_nil

theorem scan_ne_nil {r : TokKind × Nat} (h : scan s = some r) : s ≠ [] := by
  rintro rfl
  rw [scan_nil] at h
  cases h

/-! The rows of `TokKind.starts` at the characters the proofs meet. -/

theorem starts_lparen (h : k.starts '(' = true) : k = .lparen := by
  revert h
  cases k <;> decide

theorem starts_rparen (h : k.starts ')' = true) : k = .rparen := by
  revert h
  cases k <;> decide

theorem starts_quote (h : k.starts '"' = true) : k = .quoted := by
  revert h
  cases k <;> decide

theorem starts_blank (hc : isBlank c = true) (h : k.starts c = true) : k = .space := by
  have hc : c = ' ' ∨ c = '\t' := by simpa [isBlank] using hc
  revert h
  rcases hc with rfl | rfl <;> cases k <;> decide

theorem starts_eol (hc : isEolCh c = true) (h : k.starts c = true) : k = .newline := by
  have hc : c = '\r' ∨ c = '\n' := by simpa [isEolCh] using hc
  revert h
  rcases hc with rfl | rfl <;> cases k <;> decide

theorem starts_backslash (h : k.starts '\\' = true) : k = .unquoted ∨ k = .escapeSequence := by
  revert h
  cases k <;> decide

theorem starts_hash (h : k.starts '#' = true) :
    k = .moduleDocstring ∨ k = .docstring ∨ k = .doccommentStart ∨ k = .blockcommentEnd ∨ k = .bracketComment ∨
      k = .lineComment := by
  revert h
  cases k <;> decide

theorem starts_word (hc : c = '\\' ∨ unqStop c = false) (h : k.starts c = true) :
    k = .identifier ∨ k = .unquoted ∨ k = .escapeSequence ∨ k = .bracketArg := by
  have hne : ∀ d, unqStop d = true → d ≠ '\\' → c ≠ d := by
    rintro d hd hb rfl
    rcases hc with rfl | hc
    · exact hb rfl
    · rw [hd] at hc; cases hc
  cases k <;> simp only [TokKind.starts, beq_iff_eq, isBlank, isEolCh, Bool.or_eq_true] at h
  case identifier => exact .inl rfl
  case unquoted => exact .inr (.inl rfl)
  case escapeSequence => exact .inr (.inr (.inl rfl))
  case bracketArg => exact .inr (.inr (.inr rfl))
  case newline => rcases h with h | h <;> exact absurd h (hne _ rfl (by decide))
  case space => rcases h with h | h <;> exact absurd h (hne _ rfl (by decide))
  all_goals exact absurd h (hne _ rfl (by decide))

theorem scan_quote_none {rest : Str} (h : quotedBody rest = none) : scan ('"' :: rest) = none :=
  scan_none_of_starts fun k hk => by
    cases starts_quote hk
    simp [ruleScore, plainScore, quotedLen, h]

end

/-! ## `lexLoop` without fuel -/

/-- `Lexes s ts`: `s` is cut into the tokens `ts` by repeated `scan` -/
inductive Lexes : Str → List Tok → Prop
  | nil : Lexes [] []
  | cons {s : Str} {k : TokKind} {n : Nat} {ts : List Tok} :
      scan s = some (k, n) → Lexes (s.drop n) ts → Lexes s (⟨k, s.take n⟩ :: ts)

/-- `Reaches s suf`: started on `s`, the scanner arrives (after zero or more tokens) at the suffix `suf`. -/
inductive Reaches : Str → Str → Prop
  | here (s : Str) : Reaches s s
  | step {s suf : Str} {k : TokKind} {n : Nat} : scan s = some (k, n) → Reaches (s.drop n) suf → Reaches s suf

section
variable {fuel pos : Nat} {s suf : Str} {ts : List Tok}

theorem lexLoop_succ (fuel pos : Nat) (s : Str) (hs : s ≠ []) :
    lexLoop (fuel + 1) pos s =
      match scan s with
      | none => .error pos
      | some (k, len) =>
        match lexLoop fuel (pos + len) (s.drop len) with
        | .ok ts => .ok (⟨k, s.take len⟩ :: ts)
        | .error e => .error e := by
  cases s with
  | nil => exact absurd rfl hs
  | cons c cs => rw [lexLoop]; rfl

theorem lexLoop_scan {k : TokKind} {n : Nat} (hs : scan s = some (k, n))
    (hf : s.length ≤ fuel) :
    ∃ f, (s.drop n).length ≤ f ∧ lexLoop fuel pos s =
      match lexLoop f (pos + n) (s.drop n) with
      | .ok ts => .ok (⟨k, s.take n⟩ :: ts)
      | .error e => .error e := by
  obtain ⟨-, -, hn⟩ := scan_rule hs
  have hne := scan_ne_nil hs
  cases fuel with
  | zero => exact absurd (List.eq_nil_of_length_eq_zero (by omega)) hne
  | succ f =>
    refine ⟨f, by rw [List.length_drop]; omega, ?_⟩
    rw [lexLoop_succ _ _ _ hne, hs]

theorem Lexes.lexLoop (h : Lexes s ts) :
    ∀ fuel pos, s.length ≤ fuel → lexLoop fuel pos s = .ok ts := by
  induction h with
  | nil => intro fuel pos _; cases fuel <;> rfl
  | cons hs _ ih =>
    intro fuel pos hf
    obtain ⟨f, hf', e⟩ := lexLoop_scan (pos := pos) hs hf
    rw [e, ih f _ hf']

theorem Lexes.lexAll {s : Str} {ts : List Tok} (h : Lexes s ts) : lexAll s = .ok ts :=
  h.lexLoop _ _ (Nat.le_refl _)

theorem Reaches.length_le (h : Reaches s suf) : suf.length ≤ s.length := by
  induction h with
  | here s => exact Nat.le_refl _
  | step _ _ ih => rw [List.length_drop] at ih; omega

theorem Reaches.lexLoop (hr : Reaches s suf) (hne : suf ≠ []) (hf : scan suf = none) :
    ∀ fuel pos, s.length ≤ fuel →
      ∃ p, Cminx.lexLoop fuel pos s = .error p ∧ p + suf.length = pos + s.length := by
  induction hr with
  | here s =>
    intro fuel pos hfuel
    cases fuel with
    | zero => exact absurd (List.eq_nil_of_length_eq_zero (by omega)) hne
    | succ f => exact ⟨pos, by rw [lexLoop_succ _ _ _ hne, hf], rfl⟩
  | @step s suf k n hs hr ih =>
    intro fuel pos hfuel
    obtain ⟨f, hf', e⟩ := lexLoop_scan (pos := pos) hs hfuel
    obtain ⟨p, hp, hpos⟩ := ih hne hf f (pos + n) hf'
    have hle := hr.length_le
    have : 0 < suf.length := List.length_pos_iff.mpr hne
    rw [List.length_drop] at hle hpos
    exact ⟨p, by rw [e, hp], by omega⟩

/-- the scanner cuts `s` into tokens, or arrives at a point where no rule matches -/
theorem lexes_or_stuck (s : Str) :
    (∃ ts, Lexes s ts) ∨ ∃ suf, Reaches s suf ∧ suf ≠ [] ∧ scan suf = none := by
  induction hl : s.length using Nat.strongRecOn generalizing s with
  | ind l ih =>
    by_cases hs : s = []
    · exact .inl ⟨[], hs ▸ .nil⟩
    · cases hsc : scan s with
      | none => exact .inr ⟨s, .here s, hs, hsc⟩
      | some r =>
        obtain ⟨k, n⟩ := r
        obtain ⟨-, -, hn⟩ := scan_rule hsc
        have : (s.drop n).length < l := by
          rw [List.length_drop]
          have := List.length_pos_iff.mpr hs
          omega
        rcases ih _ this _ rfl with ⟨ts, h⟩ | ⟨suf, hr, h⟩
        · exact .inl ⟨_, .cons hsc h⟩
        · exact .inr ⟨suf, .step hsc hr, h⟩

theorem lexLoop_spec (hf : s.length ≤ fuel) :
    (∀ ts, lexLoop fuel pos s = .ok ts → Lexes s ts) ∧
    (∀ p, lexLoop fuel pos s = .error p →
      ∃ suf, Reaches s suf ∧ suf ≠ [] ∧ scan suf = none ∧ p + suf.length = pos + s.length) := by
  rcases lexes_or_stuck s with ⟨ts', h⟩ | ⟨suf, hr, hne, hnone⟩
  · rw [h.lexLoop fuel pos hf]
    exact ⟨fun ts e => Except.ok.inj e ▸ h, nofun⟩
  · obtain ⟨p', e, hp⟩ := hr.lexLoop hne hnone fuel pos hf
    rw [e]
    exact ⟨nofun, fun p e => Except.error.inj e ▸ ⟨suf, hr, hne, hnone, hp⟩⟩

theorem lexAll_eq_ok_iff : lexAll s = .ok ts ↔ Lexes s ts :=
  ⟨(lexLoop_spec (Nat.le_refl _)).1 ts, Lexes.lexAll⟩

theorem Lexes.flatten (h : Lexes s ts) : (ts.map Tok.text).flatten = s := by
  induction h with
  | nil => rfl
  | cons _ _ ih => simp [ih]

theorem Lexes.forall {P : Tok → Prop} (h : Lexes s ts)
    (hP : ∀ (s : Str) (k : TokKind) (n : Nat), scan s = some (k, n) → P ⟨k, s.take n⟩) : ∀ t ∈ ts, P t := by
  induction h with
  | nil => simp
  | cons hs _ ih => simpa using ⟨hP _ _ _ hs, ih⟩

end

end Cminx
