import CminxModel.Parse
/-!
`parseFold` is a fold, so it is compositional (`parseFold_append`); the successful steps of `parseStep` are the eight
rows of the relation `PStep` (`parseStep_iff`), on which everything else does its case analysis; the nesting depth of
the mode moves with the parentheses (`parseStep_depth`, `parseFold_depth`).
-/
namespace Cminx

/-! ## `TokKind.isArg` -/

theorem TokKind.skipped_of_isArg {k : TokKind} (h : k.isArg = true) : k.skipped = false := by
  cases k <;> first | rfl | cases h

/-! ## `parseFold` -/

theorem parseFold_append (st : PState) (a b : List Tok) :
    parseFold st (a ++ b) = (parseFold st a).bind (parseFold · b) := by
  induction a generalizing st with
  | nil => simp [parseFold]
  | cons t a ih =>
    simp only [List.cons_append, parseFold]
    cases parseStep st t with
    | none => simp
    | some st' => simp [ih]

/-! ## the transition table -/

/-- the events the parser has committed to, plus the `dangling` it will emit for a waiting doccomment -/
def flushEvents (pending : Option Str) (evs : List Event) : List Event :=
  match pending with
  | some _ => Event.dangling :: evs
  | none => evs

/-- `parseStep` as a relation: the eight ways a token is accepted -/
inductive PStep : PState → Tok → PState → Prop
  | moduleDoc {t p events} : t.kind = .moduleDocstring →
      PStep ⟨.top p, events, true⟩ t ⟨.top none, [.moduleDoc t.text], false⟩
  | doc {t p events atStart} : t.kind = .docstring →
      PStep ⟨.top p, events, atStart⟩ t ⟨.top (some t.text), flushEvents p events, false⟩
  | name {t p events atStart} : t.kind = .identifier →
      PStep ⟨.top p, events, atStart⟩ t ⟨.afterIdent p t.text, events, false⟩
  | lparen {t p name events atStart} : t.kind = .lparen →
      PStep ⟨.afterIdent p name, events, atStart⟩ t ⟨.inArgs p name [] [], events, atStart⟩
  | arg {t p name stack cur events atStart} : t.kind.isArg = true →
      PStep ⟨.inArgs p name stack cur, events, atStart⟩ t ⟨.inArgs p name stack (.single t.text :: cur), events, atStart⟩
  | push {t p name stack cur events atStart} : t.kind = .lparen →
      PStep ⟨.inArgs p name stack cur, events, atStart⟩ t ⟨.inArgs p name (cur :: stack) [], events, atStart⟩
  | close {t p name cur events atStart} : t.kind = .rparen →
      PStep ⟨.inArgs p name [] cur, events, atStart⟩ t ⟨.top none, emitCmd p ⟨name, cur.reverse⟩ :: events, atStart⟩
  | pop {t p name outer stack cur events atStart} : t.kind = .rparen →
      PStep ⟨.inArgs p name (outer :: stack) cur, events, atStart⟩ t
        ⟨.inArgs p name stack (.compound cur.reverse :: outer), events, atStart⟩

section
variable {t : Tok} {st st' : PState} {ts : List Tok}

theorem parseStep_iff : parseStep st t = some st' ↔ PStep st t st' := by
  obtain ⟨mode, events, atStart⟩ := st
  obtain ⟨kind, text⟩ := t
  constructor
  · intro h
    cases mode with
    | top p =>
      cases kind <;> simp [parseStep] at h
      · obtain ⟨rfl, rfl⟩ := h
        exact .moduleDoc rfl
      · subst h
        cases p <;> exact .doc rfl
      · subst h
        exact .name rfl
    | afterIdent p name =>
      cases kind <;> simp [parseStep] at h
      subst h
      exact .lparen rfl
    | inArgs p name stack cur =>
      cases kind <;> simp [parseStep, TokKind.isArg] at h
      case lparen =>
        subst h
        exact .push rfl
      case rparen =>
        cases stack with
        | nil =>
          simp only [Option.some.injEq] at h
          subst h
          exact .close rfl
        | cons outer stack =>
          simp only [Option.some.injEq] at h
          subst h
          exact .pop rfl
      all_goals
        subst h
        exact .arg rfl
  · intro h
    cases h with
    | doc hk =>
      cases hk
      rename_i p
      cases p <;> rfl
    | arg hk =>
      simp only at hk
      simp [parseStep, hk]
    | moduleDoc hk | name hk | lparen hk | push hk | close hk | pop hk =>
      cases hk
      rfl

/-- a token that no row of the table takes is rejected -/
theorem parseStep_eq_none (h : ∀ st', ¬ PStep st t st') : parseStep st t = none := by
  cases h' : parseStep st t with
  | none => rfl
  | some st' => exact absurd (parseStep_iff.mp h') (h st')

/-! ## the nesting depth -/

/-- number of currently open parentheses -/
def PMode.depth : PMode → Nat
  | .top _ => 0
  | .afterIdent _ _ => 0
  | .inArgs _ _ stack _ => stack.length + 1

theorem parseStep_depth (h : parseStep st t = some st') :
    st'.mode.depth + (if t.kind = .rparen then 1 else 0) =
      st.mode.depth + (if t.kind = .lparen then 1 else 0) := by
  cases parseStep_iff.mp h with
  | arg hk =>
    have h1 : t.kind ≠ .rparen := by rintro e; rw [e] at hk; cases hk
    have h2 : t.kind ≠ .lparen := by rintro e; rw [e] at hk; cases hk
    simp [h1, h2, PMode.depth]
  | moduleDoc hk | doc hk | name hk | lparen hk | push hk | close hk | pop hk => simp [hk, PMode.depth]

theorem parseFold_depth (h : parseFold st ts = some st') :
    st'.mode.depth + ts.countP (·.kind == .rparen) = st.mode.depth + ts.countP (·.kind == .lparen) := by
  induction ts generalizing st with
  | nil => simp [parseFold] at h; subst h; simp
  | cons t ts ih =>
    simp only [parseFold, Option.bind_eq_some_iff] at h
    obtain ⟨st₁, hs, h⟩ := h
    have h1 := parseStep_depth hs
    have h2 := ih h
    simp only [List.countP_cons, beq_iff_eq]
    omega

/-- `i` is the length of a prefix of `ts`: among the first `i` tokens there are more `)` than `(` and parentheses open at
`st` together. -/
theorem parseFold_extra_rparen (st : PState) (ts : List Tok) (i : Nat)
    (h : st.mode.depth + (ts.take i).countP (·.kind == .lparen) < (ts.take i).countP (·.kind == .rparen)) :
    parseFold st ts = none := by
  rw [← List.take_append_drop i ts, parseFold_append]
  cases hp : parseFold st (ts.take i) with
  | none => rfl
  | some st' =>
    have := parseFold_depth hp
    omega

/-! ## `parse` -/

theorem parse_some {evs : List Event} (h : parse ts = some evs) :
    ∃ pending events atStart, parseFold {} ts = some { mode := .top pending, events := events, atStart := atStart } ∧
      evs = (flushEvents pending events).reverse := by
  unfold parse at h
  split at h
  · rename_i pending events atStart hp
    exact ⟨pending, events, atStart, hp, (Option.some.inj h).symm⟩
  · cases h

theorem parse_of_fold {p : Option Str} {evs : List Event} {b : Bool}
    (h : parseFold {} ts = some ⟨.top p, evs, b⟩) : parse ts = some (flushEvents p evs).reverse := by
  unfold parse
  rw [h]
  rfl

theorem parse_none_of_fold_none (h : parseFold {} ts = none) : parse ts = none := by
  unfold parse; rw [h]

theorem parse_none_of_step_none {pre rest : List Tok} (hpre : parseFold {} pre = some st)
    (ht : parseStep st t = none) : parse (pre ++ t :: rest) = none := by
  apply parse_none_of_fold_none
  rw [parseFold_append, hpre]
  simp [parseFold, ht]

theorem parse_none_of_mode (h : parseFold {} ts = some st)
    (hm : ∀ p, st.mode ≠ .top p) : parse ts = none := by
  cases hp : parse ts with
  | none => rfl
  | some evs =>
    obtain ⟨p, ev, a, hf, -⟩ := parse_some hp
    rw [h] at hf
    cases hf
    exact absurd rfl (hm p)

end

end Cminx
