import CminxLemmas.RoundTripTok
/-!
# Round trip: significant tokens and filler

`LexSig s sig` — `s` lexes and its significant tokens are `sig` — is what the structural induction over the printer
builds, from the end of the file backwards; skipped tokens disappear, so merged `Space`/`Newline` tokens need no
bookkeeping.
-/
namespace Cminx

def LexSig (s : Str) (sig : List Tok) : Prop := ∃ ts, Lexes s ts ∧ significant ts = sig

theorem LexSig.lexAll {s : Str} {sig : List Tok} (h : LexSig s sig) :
    ∃ ts, Cminx.lexAll s = .ok ts ∧ significant ts = sig := by
  obtain ⟨ts, h1, h2⟩ := h
  exact ⟨ts, h1.lexAll, h2⟩

section
variable {s tok rest : Str} {k : TokKind} {n : Nat} {sig : List Tok}

theorem LexSig.nil : LexSig [] [] := ⟨[], .nil, rfl⟩

/-- a skipped token in front does not change the significant tokens -/
theorem LexSig.skip_iff (h : scan s = some (k, n)) (hk : k.skipped = true) :
    LexSig (s.drop n) sig ↔ LexSig s sig := by
  constructor
  · rintro ⟨ts, h1, h2⟩
    exact ⟨_, .cons h h1, by simpa [significant, hk] using h2⟩
  · rintro ⟨ts, h1, h2⟩
    cases h1 with
    | nil =>
      rw [scan_nil] at h
      cases h
    | @cons _ k' n' ts' hs' hl =>
      rw [h] at hs'
      cases hs'
      exact ⟨ts', hl, by simpa [significant, hk] using h2⟩

theorem LexSig.tok_append (h : scan (tok ++ rest) = some (k, tok.length)) (hk : k.skipped = false)
    (hr : LexSig rest sig) : LexSig (tok ++ rest) (⟨k, tok⟩ :: sig) := by
  obtain ⟨ts, h1, h2⟩ := hr
  refine ⟨_, .cons h (by simpa using h1), ?_⟩
  simpa [significant, hk] using h2

theorem LexSig.skip_append (h : scan (tok ++ rest) = some (k, tok.length)) (hk : k.skipped = true)
    (hr : LexSig rest sig) : LexSig (tok ++ rest) sig :=
  (LexSig.skip_iff h hk).mp (by simpa using hr)

end

/-! ## filler -/

/-- `f` in front of `rest` is filler: it leaves the significant tokens of `rest` as they are -/
def Skips (f rest : Str) : Prop := ∀ sig, LexSig rest sig → LexSig (f ++ rest) sig

theorem Skips.append {f g rest : Str} (hf : Skips f (g ++ rest)) (hg : Skips g rest) : Skips (f ++ g) rest := by
  intro sig h
  rw [List.append_assoc]
  exact hf sig (hg sig h)

section
variable (p : Char → Bool) (kind : TokKind) (hk : kind.skipped = true)
  (hscan : ∀ c r, p c = true → scan (c :: r) = some (kind, spanLen p (c :: r)))
include hk hscan

/-- a run of `p` in front, which the scanner skips as one token, does not change the significant tokens -/
theorem LexSig.drop_run_iff {rest : Str} {sig : List Tok} :
    LexSig (rest.drop (spanLen p rest)) sig ↔ LexSig rest sig := by
  cases rest with
  | nil => rfl
  | cons c r =>
    by_cases hc : p c = true
    · exact LexSig.skip_iff (hscan c r hc) hk
    · rw [spanLen_cons_false r (by simpa using hc)]
      rfl

/-- A character of `p` in front does not change the significant tokens: with or without it the scanner skips the whole
run, and what is left behind the run is the same. -/
theorem LexSig.run_cons_iff {c : Char} {r : Str} {sig : List Tok} (hc : p c = true) :
    LexSig (c :: r) sig ↔ LexSig r sig := by
  rw [← LexSig.drop_run_iff p kind hk hscan, ← LexSig.drop_run_iff p kind hk hscan (rest := r), spanLen_cons,
    if_pos hc, List.drop_succ_cons]

theorem Skips.run (f rest : Str) (hf : f.all p = true) : Skips f rest := by
  intro sig h
  induction f with
  | nil => exact h
  | cons c f ih =>
    simp only [List.all_cons, Bool.and_eq_true] at hf
    exact (LexSig.run_cons_iff p kind hk hscan hf.1).mpr (ih hf.2)

end

theorem Skips.blanks (f rest : Str) (hf : f.all isBlank = true) : Skips f rest :=
  Skips.run isBlank .space rfl T_lex_tok_space f rest hf

theorem Skips.eols (f rest : Str) (hf : f.all isEolCh = true) : Skips f rest :=
  Skips.run isEolCh .newline rfl T_lex_tok_newline f rest hf

theorem Skips.lineComment (t : Str) (crlf : Bool) (rest : Str) (ht : t.all notEol = true)
    (hob : opensBracket t = false) : Skips ('#' :: (t ++ eolStr crlf)) rest :=
  fun _ h => LexSig.skip_append (T_lex_tok_lineComment t crlf rest ht hob) rfl h

theorem Skips.lineComment_eof (t : Str) (ht : t.all notEol = true) (hob : opensBracket t = false) :
    Skips ('#' :: t) [] := by
  intro sig h
  have := LexSig.skip_append (tok := '#' :: t) (rest := [])
    (by rw [List.append_nil]; exact T_lex_tok_lineComment_eof t ht hob) rfl h
  simpa using this

theorem LexSig.eol_tail {e : Char} {r : Str} {sig : List Tok} (he : isEolCh e = true) (h : LexSig (e :: r) sig) :
    LexSig r sig :=
  (LexSig.run_cons_iff isEolCh .newline rfl T_lex_tok_newline he).mp h

/-- `#text` without a line ending of its own, in front of a line ending: the comment takes that line ending -/
theorem Skips.lineComment_noeol (t rest : Str) (ht : t.all notEol = true) (hob : opensBracket t = false)
    (hr : startsWithEol rest = true) : Skips ('#' :: t) rest := by
  intro sig h
  unfold startsWithEol at hr
  split at hr
  · rename_i r
    have := Skips.lineComment t false r ht hob sig (LexSig.eol_tail (by decide) h)
    simpa [eolStr] using this
  · rename_i r
    have := Skips.lineComment t true r ht hob sig (LexSig.eol_tail (e := '\n') (by decide)
      (LexSig.eol_tail (e := '\r') (by decide) h))
    simpa [eolStr] using this
  · cases hr

theorem Skips.bracketComment (lvl : Nat) (t rest : Str) (hf : closesAtEnd lvl t = true)
    (hk3 : (lvl = 0 → t.head? ≠ some '[') ∨ findAfter docEnd (t ++ (bracketClose lvl ++ rest)) = none) :
    Skips (SepAtom.bracketComment lvl t).render rest :=
  fun _ h => LexSig.skip_append (T_lex_tok_bracketComment lvl t rest hf hk3) rfl h

end Cminx
