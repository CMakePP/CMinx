import CminxLemmas.AggAlgebra
import CminxLemmas.SpecLemmas
/-!
What `step` (`CminxModel/Agg.lean`) does on one event, by the lower-cased command name: the dispatch table `procOf`,
the branches of `enterCommand`, the step of a possibly documented command of each kind, and the `process_*` methods
on arguments that meet the well-formedness conditions of `Spec.lean`.
-/
namespace Cminx

/-- the names `enterCommand_invocation` treats before it looks at `process_*`.  All but `cmake_parse_arguments` are
    among the `structuralNames` of `Spec.lean`, which well-formedness keeps off single commands; the others of those (the
    declarations, the loop openers and closers) are dispatched like any other name. -/
def specialNames : List Str :=
  [lit "cpp_class", lit "cpp_end_class", lit "cmake_parse_arguments", lit "function", lit "macro",
   lit "endfunction", lit "endmacro"]

theorem Call.lname_toCmd (c : Call) : asciiLower c.toCmd.name = c.lname := rfl
theorem Call.singles_toCmd (c : Call) : c.toCmd.singles = c.singles := rfl

/-- the command name a `process_*` method is found under -/
def Proc.name : Proc → Str
  | .function => lit "function" | .macro => lit "macro" | .cmakeParseArguments => lit "cmake_parse_arguments"
  | .ctAddTest => lit "ct_add_test" | .ctAddSection => lit "ct_add_section" | .set => lit "set"
  | .cppClass => lit "cpp_class" | .cppMember => lit "cpp_member" | .cppConstructor => lit "cpp_constructor"
  | .cppAttr => lit "cpp_attr" | .addTest => lit "add_test" | .option => lit "option"
  | .genericCommand => lit "generic_command"

theorem procOf_name (p : Proc) : procOf p.name = some p := by
  cases p <;> simp [Proc.name, procOf]

@[simp] theorem procOf_function : procOf (lit "function") = some .function := procOf_name .function
@[simp] theorem procOf_macro : procOf (lit "macro") = some .macro := procOf_name .macro
@[simp] theorem procOf_cmakeParseArguments : procOf (lit "cmake_parse_arguments") = some .cmakeParseArguments :=
  procOf_name .cmakeParseArguments
@[simp] theorem procOf_ctAddTest : procOf (lit "ct_add_test") = some .ctAddTest := procOf_name .ctAddTest
@[simp] theorem procOf_ctAddSection : procOf (lit "ct_add_section") = some .ctAddSection := procOf_name .ctAddSection
@[simp] theorem procOf_set : procOf (lit "set") = some .set := procOf_name .set
@[simp] theorem procOf_cppClass : procOf (lit "cpp_class") = some .cppClass := procOf_name .cppClass
@[simp] theorem procOf_cppMember : procOf (lit "cpp_member") = some .cppMember := procOf_name .cppMember
@[simp] theorem procOf_cppConstructor : procOf (lit "cpp_constructor") = some .cppConstructor :=
  procOf_name .cppConstructor
@[simp] theorem procOf_cppAttr : procOf (lit "cpp_attr") = some .cppAttr := procOf_name .cppAttr
@[simp] theorem procOf_addTest : procOf (lit "add_test") = some .addTest := procOf_name .addTest
@[simp] theorem procOf_option : procOf (lit "option") = some .option := procOf_name .option
theorem procOf_genericCommand : procOf (lit "generic_command") = some .genericCommand := procOf_name .genericCommand
@[simp] theorem procOf_if : procOf (lit "if") = none := by simp [procOf]
@[simp] theorem procOf_foreach : procOf (lit "foreach") = none := by simp [procOf]
@[simp] theorem procOf_while : procOf (lit "while") = none := by simp [procOf]
@[simp] theorem procOf_endif : procOf (lit "endif") = none := by simp [procOf]
@[simp] theorem procOf_endforeach : procOf (lit "endforeach") = none := by simp [procOf]
@[simp] theorem procOf_endwhile : procOf (lit "endwhile") = none := by simp [procOf]
@[simp] theorem procOf_endfunction : procOf (lit "endfunction") = none := by simp [procOf]
@[simp] theorem procOf_endmacro : procOf (lit "endmacro") = none := by simp [procOf]
@[simp] theorem procOf_cpp_end_class : procOf (lit "cpp_end_class") = none := by simp [procOf]

section
variable (cfg : Cfg) (st : AggState) (consumed : Bool) (cmd : Cmd)

theorem enterCommand_plain
    (hs : specialNames.contains (asciiLower cmd.name) = false)
    (h : consumed = true ∨ asciiLower cmd.name = lit "set" ∨ procOf (asciiLower cmd.name) = none) :
    enterCommand cfg st consumed cmd = .ok st := by
  simp [specialNames] at hs
  unfold enterCommand
  simp [hs]
  rcases h with h | h | h <;> simp [h]

theorem enterCommand_proc (p : Proc) (b : Bool)
    (hs : specialNames.contains (asciiLower cmd.name) = false)
    (hset : asciiLower cmd.name ≠ lit "set")
    (hp : procOf (asciiLower cmd.name) = some p) (hb : cfg.include p = some b) :
    enterCommand cfg st false cmd = if b then runProc cfg p st cmd [] else .ok st := by
  simp [specialNames] at hs
  unfold enterCommand
  simp [hs, hset, hp, hb]
  cases b <;> simp

theorem enterCommand_cpa
    (h : asciiLower cmd.name = lit "cmake_parse_arguments") :
    enterCommand cfg st consumed cmd = .ok (processCpa st) := by
  unfold enterCommand
  simp [h]

theorem enterCommand_endClass (x rest)
    (h : asciiLower cmd.name = lit "cpp_end_class") (hc : st.classStack = x :: rest) :
    enterCommand cfg st consumed cmd = .ok { st with classStack := rest } := by
  unfold enterCommand
  simp [h, hc]

theorem enterCommand_endDef (x rest)
    (h : asciiLower cmd.name = lit "endfunction" ∨ asciiLower cmd.name = lit "endmacro")
    (hd : st.defStack = x :: rest) :
    enterCommand cfg st consumed cmd = .ok { st with defStack := rest } := by
  unfold enterCommand
  rcases h with h | h <;> simp [h, hd]

/-- a definition completes the entry that awaits one; one that carries a doccomment of its own (`consumed`) has its
    frame on the definition stack already: no second one -/
theorem enterCommand_claim (ref : AwaitRef)
    (h : asciiLower cmd.name = lit "function" ∨ asciiLower cmd.name = lit "macro")
    (ha : st.awaiting = some ref) :
    enterCommand cfg st consumed cmd =
      .ok (if consumed then
             { claimDefinition cfg st ref (asciiLower cmd.name = lit "macro") cmd with defStack := st.defStack }
           else claimDefinition cfg st ref (asciiLower cmd.name = lit "macro") cmd) := by
  unfold enterCommand
  rcases h with h | h <;> simp [h, ha]

theorem enterCommand_claim_consumed (cfg : Cfg) (st : AggState) (cmd : Cmd) (ref : AwaitRef)
    (h : asciiLower cmd.name = lit "function" ∨ asciiLower cmd.name = lit "macro")
    (ha : st.awaiting = some ref) :
    enterCommand cfg st true cmd =
      .ok { claimDefinition cfg st ref (asciiLower cmd.name = lit "macro") cmd with defStack := st.defStack } :=
  enterCommand_claim cfg st true cmd ref h ha

/-- a definition that nothing awaits is dispatched like any other command; left out, it still opens a frame -/
theorem enterCommand_def
    (h : asciiLower cmd.name = lit "function" ∨ asciiLower cmd.name = lit "macro")
    (ha : st.awaiting = none) :
    enterCommand cfg st consumed cmd =
      if !consumed then
        if (if asciiLower cmd.name = lit "macro" then cfg.inclMacro else cfg.inclFunction) then
          processDef cfg (asciiLower cmd.name = lit "macro") st cmd []
        else .ok { st with defStack := none :: st.defStack }
      else .ok st := by
  unfold enterCommand
  rcases h with h | h
  · cases hf : cfg.inclFunction <;> simp [h, ha, hf, Cfg.include, runProc]
  · cases hf : cfg.inclMacro <;> simp [h, ha, hf, Cfg.include, runProc]

/-- `cpp_class`: a frame without an entry if undocumented classes are left out — also for a documented class,
    whose entry `enterDocumented` has stored already (defect K1) -/
theorem enterCommand_class (h : asciiLower cmd.name = lit "cpp_class") :
    enterCommand cfg st consumed cmd =
      .ok (if cfg.inclCppClass = false then { st with classStack := none :: st.classStack }
           else if consumed then st else processCppClass st cmd []) := by
  cases hf : cfg.inclCppClass <;> cases consumed <;> simp [enterCommand, h, hf, Cfg.include, runProc]

end

/-! ## `step` on the event of a possibly documented command -/

section
variable (cfg : Cfg) (st : AggState) (doc : Option DocC) (c : Call)

theorem step_docEvent_none : step cfg st (docEvent none c) = enterCommand cfg st false c.toCmd := rfl

theorem step_docEvent_some (d : DocC) :
    step cfg st (docEvent (some d) c) =
      enterDocumented cfg st d.tokenText c.toCmd >>= fun st' => enterCommand cfg st' true c.toCmd := rfl

theorem step_doc_ordinary (d : DocC) (hs : specialNames.contains c.lname = false) :
    step cfg st (docEvent (some d) c) = enterDocumented cfg st d.tokenText c.toCmd := by
  simp only [step_docEvent_some, enterCommand_plain cfg _ true c.toCmd hs (Or.inl rfl)]
  exact bind_pure _

theorem enterDocumented_proc (d : Str) (p : Proc) (hp : procOf c.lname = some p) :
    enterDocumented cfg st d c.toCmd = runProc cfg p st c.toCmd (cleanDoc d) := by
  simp [enterDocumented, Call.lname_toCmd, hp]

theorem enterDocumented_generic (d : Str) (hp : procOf c.lname = none) :
    enterDocumented cfg st d c.toCmd =
      .ok (st.push (.generic c.lname (cleanDoc d) (argTexts c.toCmd.args))) := by
  simp [enterDocumented, Call.lname_toCmd, hp]

theorem enterDocumented_def (d : Str) (h : c.lname = lit "function" ∨ c.lname = lit "macro") :
    enterDocumented cfg st d c.toCmd = processDef cfg (c.lname = lit "macro") st c.toCmd (cleanDoc d) := by
  rcases h with h | h <;> simp [enterDocumented, Call.lname_toCmd, h, runProc]

theorem step_cmd :
    step cfg st (.cmd c.toCmd) = enterCommand cfg st false c.toCmd := rfl

/-- dispatched by name only: not treated by `enterCommand_invocation` itself, no scope opened -/
def Proc.plain : Proc → Bool
  | .option | .addTest | .cppAttr | .ctAddTest | .ctAddSection | .cppMember | .cppConstructor => true
  | _ => false

theorem Proc.plain_name {p : Proc} (hp : p.plain = true) :
    specialNames.contains p.name = false ∧ p.name ≠ lit "set" := by
  cases p <;> simp [Proc.plain] at hp <;> simp [Proc.name, specialNames]

theorem step_plain (p : Proc) (b : Bool)
    (hp : p.plain = true) (hn : c.lname = p.name) (hb : cfg.include p = some b) :
    step cfg st (docEvent doc c) =
      if doc.isSome || b then runProc cfg p st c.toCmd (docTextOf doc) else .ok st := by
  obtain ⟨hs, hset⟩ := Proc.plain_name hp
  rw [← hn] at hs hset
  have hproc : procOf c.lname = some p := hn ▸ procOf_name p
  cases doc with
  | none =>
    rw [step_docEvent_none, enterCommand_proc cfg st c.toCmd p b hs hset hproc hb]
    rfl
  | some d =>
    rw [step_doc_ordinary cfg st c d hs, enterDocumented_proc cfg st c _ p hproc]
    rfl

/-- the two test declarations and the two member declarations, each pair under one Boolean -/
def ctProc (isSection : Bool) : Proc := if isSection then .ctAddSection else .ctAddTest
def memProc (isCtor : Bool) : Proc := if isCtor then .cppConstructor else .cppMember

theorem step_test (sec : Bool) (hn : c.lname = (ctProc sec).name) :
    step cfg st (docEvent doc c) =
      .ok (if doc.isSome || (if sec then cfg.inclCtAddSection else cfg.inclCtAddTest) then
        processCtTest sec st c.toCmd (docTextOf doc) else st) := by
  cases sec <;> exact (step_plain cfg st doc c (ctProc _) _ rfl hn rfl).trans (apply_ite Except.ok _ _ _).symm

theorem step_member (ic : Bool) (hn : c.lname = (memProc ic).name) :
    step cfg st (docEvent doc c) =
      .ok (if doc.isSome || (if ic then cfg.inclCppConstructor else cfg.inclCppMember) then
        processCppMember ic st c.toCmd (docTextOf doc) else st) := by
  cases ic <;> exact (step_plain cfg st doc c (memProc _) _ rfl hn rfl).trans (apply_ite Except.ok _ _ _).symm

theorem step_set (h : c.lname = lit "set") :
    step cfg st (docEvent doc c) =
      .ok (if doc.isSome then processSet st c.toCmd (docTextOf doc) else st) := by
  have hs : specialNames.contains (asciiLower c.toCmd.name) = false := by
    simp [Call.lname_toCmd, h, specialNames]
  cases doc with
  | none => exact enterCommand_plain cfg st false c.toCmd hs (Or.inr (Or.inl h))
  | some d =>
    rw [step_doc_ordinary cfg st c d hs, enterDocumented_proc cfg st c _ .set (h ▸ procOf_name .set)]
    rfl

theorem processCpa_eq (st : AggState) :
    processCpa st = { st with documented := markKw st.documented st.defStack true } := by
  obtain ⟨d, cs, aw, ds, er⟩ := st
  rcases ds with _ | ⟨_ | i, ds⟩ <;> simp [processCpa, markKw]

theorem processCpa_idem (st : AggState) : processCpa (processCpa st) = processCpa st := by
  rw [processCpa_eq, processCpa_eq]
  simp [markKw_markKw]

theorem step_cpa
    (h : c.lname = lit "cmake_parse_arguments") :
    step cfg st (docEvent doc c) = .ok (processCpa st) := by
  cases doc with
  | none => exact enterCommand_cpa cfg st false c.toCmd h
  | some d =>
    simp only [step_docEvent_some,
      enterDocumented_proc cfg st c _ .cmakeParseArguments (h ▸ procOf_name .cmakeParseArguments)]
    exact (enterCommand_cpa cfg _ true c.toCmd h).trans (congrArg Except.ok (processCpa_idem st))

theorem step_generic
    (hs : specialNames.contains c.lname = false) (hp : procOf c.lname = none) :
    step cfg st (docEvent doc c) =
      .ok (post st false (if doc.isSome then { top := [.generic c.lname (docTextOf doc) (argTexts c.toCmd.args)] }
        else {})) := by
  cases doc with
  | none =>
    exact (enterCommand_plain cfg st false c.toCmd hs (Or.inr (Or.inr hp))).trans (congrArg _ (post_empty st).symm)
  | some d =>
    rw [step_doc_ordinary cfg st c d hs, enterDocumented_generic cfg st c _ hp]
    exact congrArg _ (post_top st _).symm

/-- the entry `process_function`/`process_macro` stores (its `**kwargs` flag may still be raised later): the `defEntry`
    of `Spec.lean` without what the body adds to the flag (`defEntry_eq`, `AggBlock.lean`) -/
def defEntry0 (cfg : Cfg) (isMacro : Bool) (doc : Option DocC) (call : Call) : Entry :=
  .func isMacro (call.singles.headD []) (docTextOf doc)
    ((call.singles.drop 1).map (if isMacro then cfg.stripMacro else cfg.stripFn))
    (isInfix cfg.trigger (docTextOf doc))

theorem processDef_eq (isMacro : Bool)
    (hl : c.singles.length ≥ 1) :
    processDef cfg isMacro st c.toCmd (docTextOf doc) =
      .ok { st with documented := st.documented ++ [defEntry0 cfg isMacro doc c],
                    defStack := some st.documented.length :: st.defStack } := by
  unfold processDef
  rw [Call.singles_toCmd]
  rcases hc : c.singles with _ | ⟨name, ps⟩
  · simp [hc] at hl
  · simp [defEntry0, hc, AggState.push]

theorem step_def
    (h : c.lname = lit "function" ∨ c.lname = lit "macro") (hl : c.singles.length ≥ 1)
    (hr : ∀ ref, st.awaiting = some ref → ref.inRange st.documented.length) :
    step cfg st (docEvent doc c) =
      .ok (if doc.isSome || (!st.awaiting.isSome &&
                (if c.lname = lit "macro" then cfg.inclMacro else cfg.inclFunction)) then
             { claimedAny cfg st (some c) with
               documented := (claimedAny cfg st (some c)).documented ++ [defEntry0 cfg (c.lname = lit "macro") doc c],
               defStack := some (claimedAny cfg st (some c)).documented.length ::
                 (claimedAny cfg st (some c)).defStack }
           else { claimedAny cfg st (some c) with defStack := none :: (claimedAny cfg st (some c)).defStack }) := by
  cases doc with
  | none =>
    have hp : processDef cfg (c.lname = lit "macro") st c.toCmd [] = _ := processDef_eq cfg st none c _ hl
    rw [step_docEvent_none]
    cases ha : st.awaiting with
    | none =>
      rw [enterCommand_def cfg st false c.toCmd h ha, Call.lname_toCmd, hp, claimedAny_none ha]
      generalize (if c.lname = lit "macro" then cfg.inclMacro else cfg.inclFunction) = b
      cases b <;> simp [ha]
    | some ref =>
      rw [enterCommand_claim cfg st false c.toCmd ref h ha, Call.lname_toCmd, claimedAny_some ha, claimDefinition_eq]
      rfl
  | some d =>
    have hp : processDef cfg (c.lname = lit "macro") st c.toCmd (cleanDoc d.tokenText) = _ :=
      processDef_eq cfg st (some d) c _ hl
    rw [step_docEvent_some, enterDocumented_def cfg st c _ h, hp, except_ok_bind]
    cases ha : st.awaiting with
    | none =>
      rw [enterCommand_def cfg _ true c.toCmd h rfl, claimedAny_none ha]
      simp [ha]
    | some ref =>
      -- the entry just stored lies above the awaiting one: the completion passes underneath it
      rw [enterCommand_claim cfg _ true c.toCmd ref h rfl, Call.lname_toCmd, claimedAny_some ha, claimDefinition_eq]
      simp [claimed, claimMod_append cfg ref (some c) st.documented _ (hr ref ha)]

theorem step_class_shown (h : c.lname = lit "cpp_class") (hf : cfg.inclCppClass = true) :
    step cfg st (docEvent doc c) = .ok (processCppClass st c.toCmd (docTextOf doc)) := by
  cases doc with
  | none => simp [step_docEvent_none, enterCommand_class cfg st false c.toCmd h, hf, docTextOf]
  | some d =>
    simp [step_docEvent_some, enterDocumented_proc cfg st c _ .cppClass (h ▸ procOf_name .cppClass), runProc,
      docTextOf, enterCommand_class cfg _ true c.toCmd h, hf]

end

/-! ## the `process_*` methods on well-formed arguments -/

section
variable (st : AggState) (c : Call) (d : Str)

theorem processSet_eq (h : 1 ≤ c.singles.length) :
    processSet st c.toCmd d =
      post st false { top := [match c.singles with
        | [name] => .var name d .unset none
        | [name, v] => .var name d .string (some (unquote v))
        | name :: vs => .var name d .list (some (joinWith [' '] vs))
        | [] => .var [] d .unset none] } := by
  rw [processSet, Call.singles_toCmd]
  rcases hc : c.singles with _ | ⟨a, _ | ⟨b, _ | ⟨e, r⟩⟩⟩ <;> simp [hc, AggState.push, post_top] at h ⊢

theorem processOption_eq
    (h2 : 2 ≤ c.singles.length) (h3 : c.singles.length ≤ 3) :
    processOption st c.toCmd d =
      post st false { top := [.opt (c.singles.headD []) d (c.singles.getD 1 []) c.singles[2]?] } := by
  rw [processOption, Call.singles_toCmd]
  rcases hc : c.singles with _ | ⟨a, _ | ⟨b, _ | ⟨e, _ | ⟨f, r⟩⟩⟩⟩ <;>
    simp [hc, AggState.push, post_top] at h2 h3 ⊢

theorem processAddTest_eq
    (h2 : 2 ≤ c.allTexts.length) (hn : nameOk c.allTexts = true) :
    processAddTest st c.toCmd d =
      post st false { top := [.ctest (nameOf c.allTexts).1 d (ctestParams c.allTexts)] } := by
  have : ¬ c.allTexts.length < 2 := by omega
  unfold Call.allTexts at *
  simp only [processAddTest, this, if_false, scanName_of_nameOk _ hn, ctestParams]
  rcases hr : nameOf (argTexts c.toCmd.args) with ⟨name, _ | k⟩ <;> simp [AggState.push, post_top]

theorem processCppAttr_eq
    (h : 2 ≤ c.singles.length) (hcs : st.classStack ≠ []) :
    processCppAttr st c.toCmd d =
      post st false (if ctxOf st.classStack = .shown then
        { attrs := [{ name := c.singles.getD 1 [], doc := d, parentClass := c.singles.headD [],
                      dflt := c.singles[2]? }] }
        else {}) := by
  rw [processCppAttr, Call.singles_toCmd]
  obtain ⟨dd, cs, aw, ds, er⟩ := st
  rcases hc : c.singles with _ | ⟨a, _ | ⟨b, r⟩⟩ <;> simp [hc] at h
  rcases cs with _ | ⟨_ | j, cs⟩
  · simp at hcs
  · simp [ctxOf, post_empty]
  · simp [ctxOf, post, absorb, absorbCls, addAttr_eq, List.head?_eq_getElem?]

theorem processCppClass_eq (hl : c.singles.length ≥ 1) :
    processCppClass st c.toCmd d =
      { st with documented := absorbCls st.documented st.classStack { inner := [c.singles.headD []] } ++
                  [.cls (c.singles.headD []) d (c.singles.drop 1) [] [] [] []],
                classStack := some st.documented.length :: st.classStack } := by
  unfold processCppClass
  rw [Call.singles_toCmd]
  rcases hc : c.singles with _ | ⟨name, supers⟩
  · simp [hc] at hl
  · rcases st.classStack with _ | ⟨_ | j, cs⟩ <;> simp [absorbCls, addInner_eq]

theorem processCtTest_eq (isSection : Bool)
    (hl : 2 ≤ c.singles.length) (hn : nameOk c.singles = true) :
    processCtTest isSection st c.toCmd d =
      { st with documented := st.documented ++
                  [.test isSection (nameOf c.singles).1 d (c.singles.contains (lit "EXPECTFAIL")) [] false],
                awaiting := some (.entry st.documented.length) } := by
  unfold processCtTest
  have : ¬ c.singles.length < 2 := by omega
  simp only [Call.singles_toCmd, this, if_false, scanName_of_nameOk _ hn]
  rcases nameOf c.singles with ⟨name, k⟩
  simp [AggState.push]

theorem processCppMember_eq (isCtor : Bool) (ci : Nat) (cs)
    (hl : 2 ≤ c.singles.length) (hc : st.classStack = some ci :: cs) :
    processCppMember isCtor st c.toCmd d =
      { st with documented := st.documented.modify ci (addMethod isCtor
                  { name := c.singles.headD [], doc := d, parentClass := c.singles.getD 1 [],
                    paramTypes := c.singles.drop 2, params := [], isCtor := isCtor, isMacro := false }),
                awaiting := some (.method ci isCtor (methodCount isCtor (st.documented.getD ci default))) } := by
  unfold processCppMember
  rw [Call.singles_toCmd]
  rcases hs : c.singles with _ | ⟨a, _ | ⟨b, r⟩⟩
  · simp [hs] at hl
  · simp [hs] at hl
  · simp [hc]

theorem processCppMember_hidden (isCtor : Bool) (cs)
    (hl : 2 ≤ c.singles.length) (hc : st.classStack = none :: cs) :
    processCppMember isCtor st c.toCmd d = st := by
  unfold processCppMember
  rw [Call.singles_toCmd]
  rcases hs : c.singles with _ | ⟨a, _ | ⟨b, r⟩⟩
  · simp [hs] at hl
  · simp [hs] at hl
  · simp [hc]

end

end Cminx
