import CminxModel.Source
import CminxLemmas.StrLemmas
/-!
# Lemmas about the pieces of the scanner model (`CminxModel/Lex.lean`)

Runs (`spanLen`) and first occurrences (`findAfter`), then one section per length function of the token rules: what it
answers on an input of a given shape and, for most of them, conversely what an input looks like on which it answers
`some n` (`…_split`: `s = tok ++ post`, `tok.length = n`, and `tok` has the shape the grammar rule describes).  The rules
that match a fixed text or a run share `prefixRule_split` and `spanRule_split`.  For quoted and unquoted arguments the
converse speaks of the predicate `escClean` of property C06 and stands there (`C06_quotedBody_clean`, `C06_unqLen_clean`).
-/
namespace Cminx

/-! ## `spanLen`: runs -/

theorem spanLen_nil (p : Char → Bool) : spanLen p [] = 0 := rfl

section
variable (p : Char → Bool)

theorem take_spanLen (s : Str) : s.take (spanLen p s) = s.takeWhile p := by
  conv => lhs; arg 2; rw [← List.takeWhile_append_dropWhile (p := p) (l := s)]
  exact List.take_left' rfl

theorem drop_spanLen (s : Str) : s.drop (spanLen p s) = s.dropWhile p := by
  conv => lhs; arg 2; rw [← List.takeWhile_append_dropWhile (p := p) (l := s)]
  exact List.drop_left' rfl

theorem spanLen_le (s : Str) : spanLen p s ≤ s.length := (List.takeWhile_prefix p).length_le

theorem span_split (s : Str) :
    s = s.takeWhile p ++ s.drop (spanLen p s) ∧ (s.takeWhile p).length = spanLen p s := by
  rw [drop_spanLen]; exact ⟨List.takeWhile_append_dropWhile.symm, rfl⟩

theorem spanLen_cons (c : Char) (s : Str) :
    spanLen p (c :: s) = if p c then spanLen p s + 1 else 0 := by
  by_cases h : p c <;> simp [spanLen, h]

theorem spanLen_cons_false {p : Char → Bool} {c : Char} (s : Str) (hc : p c = false) : spanLen p (c :: s) = 0 := by
  simp [spanLen_cons, hc]

theorem spanLen_append_all (a b : Str) (h : a.all p = true) :
    spanLen p (a ++ b) = a.length + spanLen p b := by
  simp [spanLen, List.takeWhile_append_of_pos (List.all_eq_true.mp h)]

theorem spanLen_of_head (s : Str) (h : ∀ c, s.head? = some c → p c = false) :
    spanLen p s = 0 := by
  cases s with
  | nil => rfl
  | cons c s => simp [spanLen_cons, h c rfl]

theorem spanLen_append_stop (a b : Str) (h : ∀ c, b.head? = some c → p c = false) :
    spanLen p (a ++ b) = spanLen p a := by
  induction a with
  | nil => simpa [spanLen_nil] using spanLen_of_head p b h
  | cons c a ih => simp [spanLen_cons, ih]

theorem spanLen_eq_length_iff (s : Str) : spanLen p s = s.length ↔ s.all p = true := by
  induction s with
  | nil => simp [spanLen_nil]
  | cons c s ih =>
    by_cases hc : p c = true
    · simp [spanLen_cons, hc, ih]
    · simp [spanLen_cons, hc]

end

theorem drop_of_eq_append {s tok post : Str} {n : Nat} (h : s = tok ++ post) (hn : tok.length = n) :
    s.drop n = post := by
  subst h; subst hn; simp

theorem takeWhile_eq_replicate (a : Char) (s : Str) :
    s.takeWhile (· == a) = List.replicate (spanLen (· == a) s) a := by
  rw [List.eq_replicate_iff]
  exact ⟨rfl, fun b hb => by simpa using List.all_eq_true.mp List.all_takeWhile b hb⟩

theorem spanLen_replicate_append (a b : Char) (n : Nat) (rest : Str) (hb : b ≠ a) :
    spanLen (· == a) (List.replicate n a ++ b :: rest) = n := by
  rw [spanLen_append_all _ _ _ (by simp), spanLen_cons]
  simp [hb]

/-! ## character classes and what may follow a token; `spaceLen`, `newlineLen` -/

def isBlank (c : Char) : Bool := c == ' ' || c == '\t'
def isEolCh (c : Char) : Bool := c == '\r' || c == '\n'

/-- `rest` cannot continue an unquoted argument: it is empty or starts with one of ``␠ \t \r \n ( ) # "`` -/
def stopHead : Str → Bool
  | [] => true
  | c :: _ => unqStop c

/-- `rest` starts with a line ending (LF or CRLF) -/
def startsWithEol : Str → Bool
  | '\n' :: _ => true
  | '\r' :: '\n' :: _ => true
  | _ => false

theorem spaceLen_eq (s : Str) : spaceLen s = (let n := spanLen isBlank s; if n = 0 then none else some n) := rfl
theorem newlineLen_eq (s : Str) : newlineLen s = (let n := spanLen isEolCh s; if n = 0 then none else some n) := rfl

theorem isEolCh_notEol {c : Char} (h : isEolCh c = true) : notEol c = false := by
  simp only [isEolCh] at h; simp [notEol, h]

theorem spanRule_split (p : Char → Bool) {s : Str} {n : Nat}
    (h : (let n := spanLen p s; if n = 0 then none else some n) = some n) :
    ∃ tok post, s = tok ++ post ∧ tok.length = n ∧ tok ≠ [] ∧ tok.all p = true := by
  simp only at h
  split at h
  · cases h
  · rename_i hn
    obtain ⟨h1, h2⟩ := span_split p s
    have hn' := Option.some.inj h
    refine ⟨s.takeWhile p, s.drop (spanLen p s), h1, by omega, ?_, List.all_takeWhile⟩
    intro h0; rw [h0] at h2; simp at h2; omega

/-! ## `findAfter` -/

theorem findAfter_some {pat s : Str} {m : Nat} (h : findAfter pat s = some m) :
    ∃ pre post, s = pre ++ pat ++ post ∧ m = pre.length + pat.length := by
  induction s generalizing m with
  | nil =>
    simp only [findAfter] at h
    split at h
    · rename_i hp
      have : pat = [] := by simpa using hp
      subst this
      exact ⟨[], [], by simp, by simpa using h.symm⟩
    · cases h
  | cons c cs ih =>
    simp only [findAfter] at h
    split at h
    · rename_i hp
      obtain ⟨t, ht⟩ := List.isPrefixOf_iff_prefix.mp hp
      refine ⟨[], t, by simp [ht], ?_⟩
      simpa using (Option.some.inj h).symm
    · simp only [Option.map_eq_some_iff] at h
      obtain ⟨m', hm', rfl⟩ := h
      obtain ⟨pre, post, hs, hm⟩ := ih hm'
      exact ⟨c :: pre, post, by simp [hs], by simp [hm]; omega⟩

/-- Existence: where `pat` occurs, `findAfter` answers, and no later than the end of that occurrence (`findAfter_some` is
the converse: the answer is the end of an occurrence). -/
theorem findAfter_le (pat pre post : Str) :
    ∃ m, findAfter pat (pre ++ pat ++ post) = some m ∧ m ≤ pre.length + pat.length := by
  induction pre with
  | nil =>
    have hp : pat.isPrefixOf (pat ++ post) = true := List.isPrefixOf_iff_prefix.mpr (List.prefix_append _ _)
    rw [List.nil_append]
    cases hs : pat ++ post with
    | nil =>
      have : pat = [] := (List.append_eq_nil_iff.mp hs).1
      subst this
      exact ⟨0, rfl, Nat.le_refl _⟩
    | cons c cs =>
      rw [hs] at hp
      exact ⟨pat.length, by simp [findAfter, hp], by simp⟩
  | cons c pre ih =>
    obtain ⟨m, hm, hle⟩ := ih
    simp only [List.cons_append, findAfter]
    split
    · exact ⟨_, rfl, by simp only [List.length_cons]; omega⟩
    · exact ⟨m + 1, by rw [hm]; rfl, by simp only [List.length_cons]; omega⟩

theorem findAfter_eq_none_iff {pat s : Str} : findAfter pat s = none ↔ ¬ pat <:+: s := by
  constructor
  · rintro h ⟨pre, post, rfl⟩
    obtain ⟨m, hm, -⟩ := findAfter_le pat pre post
    rw [h] at hm
    cases hm
  · intro h
    cases hf : findAfter pat s with
    | none => rfl
    | some m =>
      obtain ⟨pre, post, rfl, -⟩ := findAfter_some hf
      exact absurd ⟨pre, post, rfl⟩ h

/-- "The terminator `p ++ [c]` first occurs at the end of `X ++ (p ++ [c])`", which is how `closesAtEnd` and `DocC.valid`
put it, in terms of occurrences: none ends earlier. -/
theorem findAfter_end_iff {p : Str} {c : Char} {X : Str} :
    findAfter (p ++ [c]) (X ++ (p ++ [c])) = some (X.length + (p.length + 1)) ↔ ¬ (p ++ [c]) <:+: X ++ p := by
  constructor
  · rintro h ⟨pre, post, e⟩
    -- an earlier occurrence ends before the final one, and `findAfter` finds the one that ends first
    obtain ⟨m, hm, hle⟩ := findAfter_le (p ++ [c]) pre (post ++ [c])
    rw [← List.append_assoc, e, List.append_assoc, h] at hm
    have := congrArg List.length e
    simp only [List.length_append, List.length_cons, List.length_nil] at this hle
    cases hm
    omega
  · intro hn
    obtain ⟨m, hm, hle⟩ := findAfter_le (p ++ [c]) X []
    rw [List.append_nil] at hm
    obtain ⟨pre, post, e, rfl⟩ := findAfter_some hm
    rw [hm]
    rcases List.eq_nil_or_concat post with rfl | ⟨post', c', rfl⟩
    · have := congrArg List.length e
      simp only [List.length_append, List.length_cons, List.length_nil] at this ⊢
      congr 1
      omega
    · -- the occurrence found ends before the last character: it lies in `X ++ p`
      rw [← List.append_assoc, List.concat_eq_append, ← List.append_assoc] at e
      exact absurd ⟨pre, post', (List.append_inj' e rfl).1.symm⟩ hn

theorem findAfter_tail_le {a : Char} {p s : Str} {m : Nat} (h : findAfter (a :: p) s = some m) :
    ∃ m', findAfter p s = some m' ∧ m' ≤ m := by
  obtain ⟨pre, post, rfl, rfl⟩ := findAfter_some h
  obtain ⟨m', hm', hle⟩ := findAfter_le p (pre ++ [a]) post
  exact ⟨m', by simpa using hm', by simpa [Nat.add_assoc, Nat.add_comm 1] using hle⟩

theorem findAfter_cons_le {p s : Str} {m : Nat} (c : Char) (h : findAfter p s = some m) :
    ∃ m', findAfter p (c :: s) = some m' ∧ m' ≤ m + 1 := by
  obtain ⟨pre, post, rfl, rfl⟩ := findAfter_some h
  obtain ⟨m', hm', hle⟩ := findAfter_le p (c :: pre) post
  exact ⟨m', hm', by simp only [List.length_cons] at hle; omega⟩

theorem findAfter_append {pat x : Str} {m : Nat} (y : Str) (h : findAfter pat x = some m) :
    findAfter pat (x ++ y) = some m := by
  obtain ⟨pre, post, rfl, rfl⟩ := findAfter_some h
  obtain ⟨m', hm', hle⟩ := findAfter_le pat pre (post ++ y)
  rw [← List.append_assoc] at hm'
  obtain ⟨pre', post', hs, rfl⟩ := findAfter_some hm'
  -- the occurrence found in `x ++ y` ends inside `x`, so it is an occurrence in `x`
  obtain ⟨post'', hx⟩ : ∃ post'', pre ++ pat ++ post = pre' ++ pat ++ post'' := by
    refine ⟨post'.take ((pre ++ pat ++ post).length - (pre' ++ pat).length), ?_⟩
    have := congrArg (List.take (pre ++ pat ++ post).length) hs
    rwa [List.take_left' rfl, List.take_append,
      List.take_of_length_le (by simp only [List.length_append] at hle ⊢; omega)] at this
  obtain ⟨m'', hm'', hle'⟩ := findAfter_le pat pre' post''
  rw [← hx, h] at hm''
  cases hm''
  rw [hm']
  congr 1
  omega

theorem findAfter_skip (a : Char) (p pre x : Str) (h : a ∉ pre) :
    findAfter (a :: p) (pre ++ x) = (findAfter (a :: p) x).map (· + pre.length) := by
  induction pre with
  | nil => simp
  | cons c pre ih =>
    have hc : c ≠ a := fun e => h (by simp [e])
    have hp : a ∉ pre := fun e => h (by simp [e])
    have : (a :: p).isPrefixOf (c :: (pre ++ x)) = false := by simp [List.isPrefixOf, Ne.symm hc]
    simp only [List.cons_append, findAfter, this, Bool.false_eq_true, if_false, ih hp, Option.map_map]
    congr 1

theorem findAfter_none_mono {p q s t : Str} (hp : p <:+: q) (ht : t <:+: s) (h : findAfter p s = none) :
    findAfter q t = none := by
  rw [findAfter_eq_none_iff] at h ⊢
  exact fun hq => h ((hp.trans hq).trans ht)

/-! ## `docStart`, `docEnd`, `lit "@module"`, and the rules that match a fixed text -/

theorem docStart_eq : docStart = ['#', '[', '[', '['] := lit_ofList _
theorem docEnd_eq : docEnd = ['#', ']', ']'] := lit_ofList _
theorem litModule_eq : lit "@module" = ['@', 'm', 'o', 'd', 'u', 'l', 'e'] := lit_ofList _

theorem litModule_ne_nil : lit "@module" ≠ [] := by rw [litModule_eq]; simp

theorem docStart_append (x : Str) : docStart ++ x = '#' :: '[' :: '[' :: '[' :: x := by rw [docStart_eq]; rfl

theorem prefix_docStart {s : Str} (h : docStart.isPrefixOf s = true) :
    ∃ t, s = docStart ++ t ∧ s.drop 4 = t := by
  obtain ⟨t, ht⟩ := List.isPrefixOf_iff_prefix.mp h
  exact ⟨t, ht.symm, by rw [← ht, docStart_eq]; rfl⟩

theorem docStart_isPrefixOf_open (n : Nat) (rest : Str) :
    docStart.isPrefixOf ('#' :: '[' :: (List.replicate n '=' ++ '[' :: rest)) =
      (n == 0 && rest.head? == some '[') := by
  cases n with
  | zero =>
    cases rest with
    | nil => simp [docStart_eq, List.isPrefixOf]
    | cons c cs => simp [docStart_eq, List.isPrefixOf]; exact Bool.beq_comm
  | succ n => simp [docStart_eq, List.isPrefixOf, List.replicate_succ]

theorem docStart_not_prefix {x : Str} (h : opensBracket x = false) : docStart.isPrefixOf ('#' :: x) = false := by
  rw [← Bool.not_eq_true, List.isPrefixOf_iff_prefix, docStart_eq]
  rintro ⟨t, ht⟩
  simp only [List.cons_append, List.cons.injEq, true_and, List.nil_append] at ht
  subst ht
  simp [opensBracket, spanLen] at h

/-- the rules for `(` and `)` are prefix rules -/
theorem head?_beq_eq_isPrefixOf (c : Char) (s : Str) : (s.head? == some c) = [c].isPrefixOf s := by
  cases s with
  | nil => rfl
  | cons d ds => simp [List.isPrefixOf, Bool.beq_comm]

theorem prefixRule_split {pat s : Str} {k L : Nat} (h : (if pat.isPrefixOf s then some k else none) = some L) :
    ∃ post, s = pat ++ post ∧ k = L := by
  split at h
  · rename_i hp
    obtain ⟨t, ht⟩ := List.isPrefixOf_iff_prefix.mp hp
    exact ⟨t, ht.symm, Option.some.inj h⟩
  · cases h

/-! ## `identLen`, `escapeLen` -/

theorem identLen_split {s : Str} {n : Nat} (h : identLen s = some n) :
    ∃ c cs post, s = (c :: cs) ++ post ∧ (c :: cs).length = n ∧ identStart c = true ∧
      cs.all identChar = true := by
  cases s with
  | nil => simp [identLen] at h
  | cons c r =>
    simp only [identLen] at h
    split at h
    · rename_i hc
      obtain ⟨h1, h2⟩ := span_split identChar r
      refine ⟨c, r.takeWhile identChar, r.drop (spanLen identChar r), ?_, ?_, hc, List.all_takeWhile⟩
      · rw [List.cons_append, ← h1]
      · have := Option.some.inj h
        rw [List.length_cons, h2]; omega
    · cases h

theorem escapeLen_split {s : Str} {n : Nat} (h : escapeLen s = some n) :
    ∃ d post, s = ['\\', d] ++ post ∧ n = 2 ∧ escOk d = true := by
  unfold escapeLen at h
  split at h
  · rename_i d post
    split at h
    · rename_i hd; exact ⟨d, post, rfl, (Option.some.inj h).symm, hd⟩
    · cases h
  · cases h

/-! ## `unqLen`, `unquotedLen`: unquoted runs, and identifiers and escape sequences as beginnings of them -/

theorem unquotedLen_eq_some {s : Str} {n : Nat} : unquotedLen s = some n ↔ unqLen s = n ∧ n ≠ 0 := by
  simp only [unquotedLen]
  split
  · rename_i h
    simp only [reduceCtorEq, false_iff, not_and, Decidable.not_not]
    rintro rfl
    exact h
  · rename_i h
    simp only [Option.some.injEq]
    exact ⟨fun e => ⟨e, e ▸ h⟩, fun e => e.1⟩

theorem unqLen_le (s : Str) : unqLen s ≤ s.length := by
  fun_induction unqLen s <;> simp <;> omega

/-! The equations of `unqLen` by the first character (the generated ones go by the length of the list). -/

theorem unqLen_nil : unqLen [] = 0 := rfl

theorem unqLen_backslash (d : Char) (rest : Str) :
    unqLen ('\\' :: d :: rest) = if escOk d then unqLen rest + 2 else 0 := by
  rw [unqLen.eq_def]; rfl

theorem unqLen_cons {c : Char} (hc : c ≠ '\\') (rest : Str) :
    unqLen (c :: rest) = if unqStop c then 0 else unqLen rest + 1 := by
  rw [unqLen.eq_def]; exact if_neg hc

theorem unqLen_of_stop {c : Char} (rest : Str) (hc : c ≠ '\\') (hs : unqStop c = true) :
    unqLen (c :: rest) = 0 := by
  rw [unqLen_cons hc, if_pos hs]

theorem unqStop_not_identChar {c : Char} (h : unqStop c = true) : identChar c = false := by
  simp only [unqStop, Bool.or_eq_true, beq_iff_eq] at h
  rcases h with ((((((rfl | rfl) | rfl) | rfl) | rfl) | rfl) | rfl) | rfl <;> decide

theorem unqStop_ne_backslash {c : Char} (h : unqStop c = true) : c ≠ '\\' := by
  intro e; subst e; revert h; decide

theorem unqStop_of_stopHead {rest : Str} (hr : stopHead rest = true) {c : Char} (hc : rest.head? = some c) :
    unqStop c = true := by
  cases rest with
  | nil => cases hc
  | cons e r =>
    cases hc
    exact hr

theorem unqLen_of_stopHead {rest : Str} (hr : stopHead rest = true) : unqLen rest = 0 := by
  cases rest with
  | nil => rfl
  | cons c cs => exact unqLen_of_stop cs (unqStop_ne_backslash hr) hr

/-- a text that is an unquoted run from end to end is passed over, whatever follows -/
theorem unqLen_append_of_full {t : Str} (hu : unqLen t = t.length) (rest : Str) :
    unqLen (t ++ rest) = t.length + unqLen rest := by
  fun_induction unqLen t with
  | case1 => simp
  | case2 => simp at hu
  | case3 d t hd ih =>
    have : unqLen t = t.length := by simpa using hu
    rw [List.cons_append, List.cons_append, unqLen_backslash, if_pos hd, ih this, List.length_cons, List.length_cons]
    omega
  | case4 d t hd => simp at hu
  | case5 c t hc hs => simp at hu
  | case6 c t hc hs ih =>
    have : unqLen t = t.length := by simpa using hu
    rw [List.cons_append, unqLen_cons hc, if_neg hs, ih this, List.length_cons]
    omega

theorem unqLen_append_stop {t rest : Str} (hu : unqLen t = t.length) (hr : stopHead rest = true) :
    unqLen (t ++ rest) = t.length := by
  rw [unqLen_append_of_full hu, unqLen_of_stopHead hr]
  rfl

theorem unqLen_head {c : Char} {t : Str} (h : unqLen (c :: t) ≠ 0) : c = '\\' ∨ unqStop c = false := by
  by_cases hc : c = '\\'
  · exact Or.inl hc
  · right
    cases hs : unqStop c with
    | false => rfl
    | true => exact absurd (unqLen_of_stop t hc hs) h

theorem identLen_append_stop {t rest : Str} (ht : t ≠ []) (hr : stopHead rest = true) :
    identLen (t ++ rest) = identLen t := by
  cases t with
  | nil => exact absurd rfl ht
  | cons c t =>
    have : spanLen identChar (t ++ rest) = spanLen identChar t :=
      spanLen_append_stop _ _ _ fun d hd => unqStop_not_identChar (unqStop_of_stopHead hr hd)
    simp [identLen, this]

theorem escapeLen_le_unqLen {s : Str} {m : Nat} (h : escapeLen s = some m) : m ≤ unqLen s := by
  obtain ⟨d, post, rfl, rfl, hd⟩ := escapeLen_split h
  rw [List.cons_append, List.cons_append, unqLen_backslash, if_pos hd]
  omega

theorem identChar_of_identStart {c : Char} (h : identStart c = true) : identChar c = true := by
  simp only [identStart, Bool.or_eq_true] at h
  rcases h with h | h <;> simp [identChar, asciiAlnum, h]

theorem unqLen_of_all_identChar {r : Str} (hr : r.all identChar = true) : unqLen r = r.length := by
  induction r with
  | nil => rfl
  | cons c r ih =>
    simp only [List.all_cons, Bool.and_eq_true] at hr
    have hs : unqStop c = false := by
      cases h : unqStop c with
      | false => rfl
      | true => rw [unqStop_not_identChar h] at hr; exact absurd hr.1 (by decide)
    have hb : c ≠ '\\' := by rintro rfl; exact absurd hr.1 (by decide)
    rw [unqLen_cons hb, hs, ih hr.2]
    rfl

/-- an identifier is the beginning of an unquoted run -/
theorem identLen_le_unqLen {s : Str} {m : Nat} (h : identLen s = some m) : m ≤ unqLen s := by
  obtain ⟨c, cs, post, rfl, rfl, hc, hcs⟩ := identLen_split h
  rw [unqLen_append_of_full (unqLen_of_all_identChar (by rw [List.all_cons, identChar_of_identStart hc, hcs]; rfl))]
  omega

/-- An unquoted run that stops inside `t ++ [c]` stops there whatever follows: `c` is not a backslash that what follows
could complete to an escape sequence. -/
theorem unqLen_append_dirty (t : Str) (c : Char) (rest : Str) (hc : c ≠ '\\')
    (hu : unqLen (t ++ [c]) ≠ (t ++ [c]).length) : unqLen (t ++ c :: rest) = unqLen (t ++ [c]) := by
  fun_induction unqLen t with
  | case1 =>
    have hs : unqStop c = true := by simpa [unqLen_cons hc, unqLen_nil] using hu
    simp [unqLen_cons hc, hs]
  | case2 =>
    have he : escOk c = false := by simpa [unqLen_backslash, unqLen_nil] using hu
    simp [unqLen_backslash, he]
  | case3 d t hd ih =>
    have : unqLen (t ++ [c]) ≠ (t ++ [c]).length := by simpa [unqLen_backslash, hd] using hu
    simp [unqLen_backslash, hd, ih this]
  | case4 d t hd => simp [unqLen_backslash, hd]
  | case5 x t hx hs => simp [unqLen_cons hx, hs]
  | case6 x t hx hs ih =>
    have : unqLen (t ++ [c]) ≠ (t ++ [c]).length := by simpa [unqLen_cons hx, hs] using hu
    simp [unqLen_cons hx, hs, ih this]

/-! ## `quotedBody` -/

theorem quotedBody_append {x : Str} {m : Nat} (y : Str) (h : quotedBody x = some m) :
    quotedBody (x ++ y) = some m := by
  fun_induction quotedBody x generalizing m with
  | case1 => cases h
  | case2 rest => rw [List.cons_append, quotedBody.eq_def]; simpa using h
  | case3 hq => cases h
  | case4 d rest' hd hq ih =>
    simp only [Option.map_eq_some_iff] at h
    obtain ⟨m', hm', rfl⟩ := h
    rw [List.cons_append, List.cons_append, quotedBody.eq_def]
    simp [hd, ih hm']
  | case5 d rest' hd hq => cases h
  | case6 c rest hq hb ih =>
    simp only [Option.map_eq_some_iff] at h
    obtain ⟨m', hm', rfl⟩ := h
    rw [List.cons_append, quotedBody.eq_def]
    simp [hq, hb, ih hm']

/-! ## `opensBracket` is decided at the head of the text -/

theorem head?_dropWhile_eq_append (b x : Str) (hx : ∀ c, x.head? = some c → c ≠ '=' ∧ c ≠ '[') :
    (((b ++ x).dropWhile (· == '=')).head? == some '[') = ((b.dropWhile (· == '=')).head? == some '[') := by
  induction b with
  | nil =>
    cases x with
    | nil => rfl
    | cons e x =>
      obtain ⟨h1, h2⟩ := hx e rfl
      simp [h1, h2]
  | cons d b ih =>
    by_cases hd : d = '='
    · subst hd; simpa [List.dropWhile_cons] using ih
    · simp [hd]

theorem opensBracket_append_of (t x : Str) (hx : ∀ c, x.head? = some c → c ≠ '=' ∧ c ≠ '[') :
    opensBracket (t ++ x) = opensBracket t := by
  cases t with
  | nil =>
    cases x with
    | nil => rfl
    | cons e x =>
      obtain ⟨-, h2⟩ := hx e rfl
      simp [opensBracket, h2]
  | cons c b =>
    by_cases hc : c = '['
    · subst hc
      simp only [List.cons_append, opensBracket, drop_spanLen]
      exact head?_dropWhile_eq_append b x hx
    · simp [opensBracket, hc]

theorem opensBracket_append_eol (body x : Str) (e : Char) (he : notEol e = false) :
    opensBracket (body ++ e :: x) = opensBracket body := by
  refine opensBracket_append_of body (e :: x) fun c hc => ?_
  cases hc
  constructor <;> (rintro rfl; exact absurd he (by decide))

theorem opensBracket_open (n : Nat) (rest : Str) :
    opensBracket ('[' :: (List.replicate n '=' ++ '[' :: rest)) = true := by
  simp [opensBracket, spanLen_replicate_append '=' '[' n rest (by decide)]

theorem stopHead_head {rest : Str} (hr : stopHead rest = true) :
    ∀ c, rest.head? = some c → c ≠ '=' ∧ c ≠ '[' := by
  intro c hc
  have hs := unqStop_of_stopHead hr hc
  constructor <;> (rintro rfl; exact absurd hs (by decide))

/-! ## `bracketLen`, `bracketCommentLen`: `[`, n × `=`, `[` … `]`, n × `=`, `]` -/

theorem bracketLen_open (n : Nat) (rest : Str) :
    bracketLen ('[' :: (List.replicate n '=' ++ '[' :: rest)) =
      (findAfter (bracketClose n) rest).map (· + n + 2) := by
  simp only [bracketLen, spanLen_replicate_append '=' '[' n rest (by decide),
    List.drop_left' (List.length_replicate (n := n) (a := '=')), bracketClose]

theorem bracketLen_none_of_not_opens {s : Str} (h : opensBracket s = false) : bracketLen s = none := by
  unfold bracketLen
  split
  · rename_i rest
    simp only [opensBracket] at h
    dsimp only
    split
    · rename_i body hb
      rw [hb] at h; simp at h
    · rfl
  · rfl

theorem bracketLen_split {s : Str} {L : Nat} (h : bracketLen s = some L) :
    ∃ n body post, s = ('[' :: (List.replicate n '=' ++ '[' :: (body ++ bracketClose n))) ++ post ∧
      ('[' :: (List.replicate n '=' ++ '[' :: (body ++ bracketClose n))).length = L := by
  unfold bracketLen at h
  split at h
  · rename_i rest
    simp only at h
    split at h
    · rename_i body hd
      simp only [Option.map_eq_some_iff] at h
      obtain ⟨m, hm, rfl⟩ := h
      obtain ⟨pre, post, hb, hm'⟩ := findAfter_some hm
      obtain ⟨h1, h2⟩ := span_split (· == '=') rest
      rw [takeWhile_eq_replicate] at h1 h2
      rw [hd, hb] at h1
      generalize spanLen (fun x => x == '=') rest = n at *
      refine ⟨n, pre, post, ?_, ?_⟩
      · rw [h1]; simp [bracketClose]
      · simp [bracketClose] at hm' ⊢; omega
    · cases h
  · cases h

theorem bracketCommentLen_split {s : Str} {L : Nat} (h : bracketCommentLen s = some L) :
    ∃ n body post, s = ('#' :: '[' :: (List.replicate n '=' ++ '[' :: (body ++ bracketClose n))) ++ post ∧
      ('#' :: '[' :: (List.replicate n '=' ++ '[' :: (body ++ bracketClose n))).length = L := by
  unfold bracketCommentLen at h
  split at h
  · rename_i rest
    simp only [Option.map_eq_some_iff] at h
    obtain ⟨m, hm, rfl⟩ := h
    obtain ⟨n, body, post, hs, hl⟩ := bracketLen_split hm
    exact ⟨n, body, post, by rw [hs]; rfl, by rw [List.length_cons, hl]⟩
  · cases h

theorem bracketText_eq (lvl : Nat) (b rest : Str) :
    bracketOpen lvl ++ b ++ bracketClose lvl ++ rest =
      '[' :: (List.replicate lvl '=' ++ '[' :: (b ++ bracketClose lvl ++ rest)) := by
  simp [bracketOpen]

theorem bracketText_length (lvl : Nat) (b : Str) :
    (bracketOpen lvl ++ b ++ bracketClose lvl).length = b.length + 2 * lvl + 4 := by
  simp [bracketOpen, bracketClose]; omega

/-- the bracket terminator `]=*]` occurs in `t ++ ]=*]` only at the end -/
def closesAtEnd (lvl : Nat) (t : Str) : Bool :=
  findAfter (bracketClose lvl) (t ++ bracketClose lvl) == some (t.length + (bracketClose lvl).length)

theorem bracketLen_text (lvl : Nat) (b rest : Str) (hf : closesAtEnd lvl b = true) :
    bracketLen (bracketOpen lvl ++ b ++ bracketClose lvl ++ rest) =
      some (bracketOpen lvl ++ b ++ bracketClose lvl).length := by
  rw [bracketText_eq, bracketLen_open, findAfter_append rest (beq_iff_eq.mp hf), bracketText_length]
  simp [bracketClose]; omega

/-! ## `lineCommentLen` -/

theorem lineCommentLen_split {s : Str} {L : Nat} {eof : Bool} (h : lineCommentLen s = some (L, eof)) :
    ∃ body eol post, s = ('#' :: (body ++ eol)) ++ post ∧ ('#' :: (body ++ eol)).length = L ∧
      body.all notEol = true ∧ opensBracket body = false ∧
      (eol = [] ∨ eol = ['\n'] ∨ eol = ['\r', '\n'] ∨ eol = ['\r']) := by
  unfold lineCommentLen at h
  split at h
  · rename_i rest
    split at h
    · cases h
    · rename_i hob
      have hr := List.takeWhile_append_dropWhile (p := notEol) (l := rest)
      have hall : (rest.takeWhile notEol).all notEol = true := List.all_takeWhile
      have hhd := List.head?_dropWhile_not notEol rest
      simp only [spanLen] at h
      generalize rest.takeWhile notEol = b at *
      generalize rest.dropWhile notEol = d at *
      subst hr
      -- the line ending, if any, starts with a character that `opensBracket` does not look past
      have hob' : opensBracket b = false := by
        cases d with
        | nil => simpa using hob
        | cons e d =>
          rw [opensBracket_append_eol _ _ _ (by simpa using hhd)] at hob
          simpa using hob
      simp only [List.drop_left] at h
      split at h <;> cases h
      · exact ⟨b, [], [], by simp, by simp, hall, hob', by simp⟩
      · exact ⟨b, ['\r', '\n'], _, by simp; rfl, by simp, hall, hob', by simp⟩
      · rename_i c post _
        have hc : c = '\r' ∨ c = '\n' := by simpa [notEol, Decidable.or_iff_not_imp_left] using hhd
        exact ⟨b, [c], post, by simp, by simp, hall, hob', by rcases hc with rfl | rfl <;> simp⟩
  · cases h

/-! ## `docstringLen` -/

theorem docstringLen_docStart (t : Str) : docstringLen (docStart ++ t) = (findAfter docEnd t).map (· + 4) := by
  have hp : docStart.isPrefixOf (docStart ++ t) = true := List.isPrefixOf_iff_prefix.mpr ⟨t, rfl⟩
  have hd : (docStart ++ t).drop 4 = t := by rw [docStart_append]; rfl
  simp only [docstringLen, hp, if_true, hd]

theorem docstringLen_split {s : Str} {L : Nat} (h : docstringLen s = some L) :
    ∃ body post, s = (docStart ++ body ++ docEnd) ++ post ∧ (docStart ++ body ++ docEnd).length = L := by
  unfold docstringLen at h
  split at h
  · rename_i hp
    obtain ⟨t, hs, hd⟩ := prefix_docStart hp
    rw [hd] at h
    simp only [Option.map_eq_some_iff] at h
    obtain ⟨m, hm, rfl⟩ := h
    obtain ⟨pre, post, ht, hm'⟩ := findAfter_some hm
    refine ⟨pre, post, by rw [hs, ht]; simp, ?_⟩
    simp [docStart_eq] at hm' ⊢; omega
  · cases h

/-! ## `moduleDocstringLen` -/

theorem moduleDocstringLen_eq (s : Str) :
    moduleDocstringLen s =
      if (lit "@module").isPrefixOf ((s.drop 4).dropWhile isBlank) then docstringLen s else none := by
  unfold moduleDocstringLen docstringLen
  split
  · generalize s.drop 4 = r
    show (if (lit "@module").isPrefixOf (r.drop (spanLen isBlank r)) then
      (findAfter docEnd ((r.drop (spanLen isBlank r)).drop 7)).map (· + 4 + spanLen isBlank r + 7) else none) = _
    rw [drop_spanLen]
    split
    · rename_i hm
      obtain ⟨u, hu⟩ := List.isPrefixOf_iff_prefix.mp hm
      -- `#]]` cannot begin inside the blanks or `@module`
      have hnot : '#' ∉ r.takeWhile isBlank ++ lit "@module" := by
        rw [List.mem_append, not_or]
        exact ⟨fun h => absurd (List.all_eq_true.mp List.all_takeWhile _ h) (by decide), not_mem_lit_of (by decide)⟩
      have hr : r = (r.takeWhile isBlank ++ lit "@module") ++ u := by
        rw [List.append_assoc, hu, List.takeWhile_append_dropWhile]
      conv => rhs; rw [hr, docEnd_eq, findAfter_skip '#' _ _ _ hnot]
      rw [← hu, show (lit "@module" ++ u).drop 7 = u by rw [litModule_eq]; rfl, docEnd_eq]
      simp only [Option.map_map, List.length_append, litModule_eq]
      congr 1
      funext m
      simp only [spanLen, Function.comp, List.length_cons, List.length_nil]
      omega
    · rfl
  · simp

theorem moduleDocstringLen_split {s : Str} {L : Nat} (h : moduleDocstringLen s = some L) :
    ∃ blanks body post, s = (docStart ++ blanks ++ lit "@module" ++ body ++ docEnd) ++ post ∧
      (docStart ++ blanks ++ lit "@module" ++ body ++ docEnd).length = L ∧ blanks.all isBlank = true := by
  unfold moduleDocstringLen at h
  split at h
  · rename_i hp
    obtain ⟨t, hs, hd⟩ := prefix_docStart hp
    simp only [hd] at h
    split at h
    · rename_i hm
      obtain ⟨u, hu⟩ := List.isPrefixOf_iff_prefix.mp hm
      obtain ⟨h1, h2⟩ := span_split (fun c => c == ' ' || c == '\t') t
      simp only [Option.map_eq_some_iff] at h
      obtain ⟨m, hm, rfl⟩ := h
      rw [← hu] at hm
      have hdrop : (lit "@module" ++ u).drop 7 = u := by rw [litModule_eq]; rfl
      rw [hdrop] at hm
      obtain ⟨pre, post, hu', hm'⟩ := findAfter_some hm
      refine ⟨t.takeWhile (fun c => c == ' ' || c == '\t'), pre, post, ?_, ?_, List.all_takeWhile⟩
      · rw [hs]
        conv => lhs; rw [h1, ← hu, hu']
        simp
      · rw [← h2]
        simp [docStart_eq, litModule_eq, docEnd_eq] at hm' ⊢; omega
    · cases h
  · cases h

theorem doc_none_of_findAfter (s : Str) (h : findAfter docEnd (s.drop 4) = none) :
    docstringLen s = none ∧ moduleDocstringLen s = none := by
  have hd : docstringLen s = none := by simp [docstringLen, h]
  exact ⟨hd, by simp [moduleDocstringLen_eq, hd]⟩

theorem doc_none_of_not_prefix (s : Str) (h : docStart.isPrefixOf s = false) :
    docstringLen s = none ∧ moduleDocstringLen s = none := by
  unfold docstringLen moduleDocstringLen
  simp [h]

theorem moduleDocstringLen_none (c : Char) (x : Str) (hb : isBlank c = false) (hc : c ≠ '@') :
    moduleDocstringLen (docStart ++ c :: x) = none := by
  rw [moduleDocstringLen_eq, docStart_append]
  simp [hb, litModule_eq, List.isPrefixOf, Ne.symm hc]

theorem moduleGuard_append_eol (suf : Str) (e : Char) (x : Str) (he : isEolCh e = true) :
    (lit "@module").isPrefixOf ((suf ++ e :: x).dropWhile isBlank) =
      (lit "@module").isPrefixOf (suf.dropWhile isBlank) := by
  have he' : e = '\r' ∨ e = '\n' := by simpa [isEolCh] using he
  have hd : (suf ++ e :: x).dropWhile isBlank = suf.dropWhile isBlank ++ e :: x := by
    have : isBlank e = false := by rcases he' with rfl | rfl <;> rfl
    rw [List.dropWhile_append]
    split
    · rename_i h0
      simp [List.isEmpty_iff.mp h0, this]
    · rfl
  rw [hd]
  refine isPrefixOf_append_cons ?_ _ _
  rw [litModule_eq]
  rcases he' with rfl | rfl <;> decide

end Cminx
