import CminxModel.Rst
import CminxLemmas.StrLemmas
/-!
Lemmas about L2 (`Rst.lean`): what each `render*` function produces, and paths into a document.

The list companions of the nested recursions are core list functions (`renderElems` is a `flatMap`, `updateAt` is
`List.modify`), so their list facts are core's.  `Elem.sub e p` is the element reached from `e` by following the child
indices `p` (`[]` is `e` itself); a document is seen as a pseudo-directive (`Doc.asElem`) so that every fact about
paths and updates is proved once, for elements.
-/
namespace Cminx

/-! ## indent -/

theorem indent_spaces (d : Nat) : ∀ c ∈ indent d, c = ' ' := fun _ hc => List.eq_of_mem_replicate hc

theorem indent_noNl (d : Nat) : '\n' ∉ indent d := noNl_replicate (by decide)

theorem indent_add (a b : Nat) : indent (a + b) = indent a ++ indent b := by
  simp only [indent, Nat.mul_add, List.replicate_append_replicate]

theorem indent_zero : indent 0 = [] := rfl

theorem indent_append_one (d : Nat) (l : Str) : indent d ++ (indent 1 ++ l) = indent (d + 1) ++ l := by
  rw [indent_add, List.append_assoc]

/-! ## rendering -/

theorem renderPara_lines (d : Nat) (t : Str) :
    splitNl (renderPara d t) = (splitNl t).map (indent d ++ ·) := by
  unfold renderPara
  refine splitNl_joinNl (by simpa using splitNl_ne_nil t) (List.forall_mem_map.2 fun x hx => ?_)
  simp [indent_noNl, noNl_of_mem_splitNl t x hx]

/-- the marker in front of list item number `i` (zero-based) -/
def itemMark (enumerated : Bool) (i : Nat) : Str :=
  if enumerated then natStr (i + 1) ++ ['.', ' '] else ['*', ' ']

theorem itemMark_noNl (en : Bool) (i : Nat) : '\n' ∉ itemMark en i := by
  have := natStr_noNl (i + 1)
  cases en <;> simp_all [itemMark]

theorem renderItems_eq (d : Nat) (en : Bool) (i : Nat) (items : List Str) :
    renderItems d en i items =
      (items.mapIdx fun k it => indent d ++ itemMark en (i + k) ++ it ++ ['\n']).flatten := by
  induction items generalizing i with
  | nil => simp [renderItems]
  | cons it its ih =>
    simp only [renderItems, ih, List.mapIdx_cons, List.flatten_cons, Nat.add_zero, itemMark]
    simp [Nat.add_assoc, Nat.add_comm 1]

theorem map_mapIdx {α β γ : Type} (l : List α) (f : Nat → α → β) (g : β → γ) :
    (l.mapIdx f).map g = l.mapIdx (fun i a => g (f i a)) := by
  apply List.ext_getElem? ; intro i; simp; rfl

theorem renderList_lines (d : Nat) (en : Bool) (items : List Str) (h : ∀ it ∈ items, '\n' ∉ it) :
    splitNl (renderList d en items) =
      [] :: (items.mapIdx fun k it => indent d ++ itemMark en k ++ it) ++ [[]] := by
  have hl : ∀ l ∈ (items.mapIdx fun k it => indent d ++ itemMark en k ++ it), '\n' ∉ l := by
    intro l hl
    obtain ⟨k, hk, rfl⟩ := List.mem_mapIdx.1 hl
    simp only [List.mem_append, not_or]
    exact ⟨⟨indent_noNl d, itemMark_noNl en k⟩, h items[k] (List.getElem_mem hk)⟩
  have := splitNl_flatten_map_nl _ hl []
  simp only [List.append_nil, map_mapIdx] at this
  simpa [renderList, renderItems_eq] using this

theorem splitNl_renderDirHeading_nl {d : Nat} {name : Str} {args : List Str} (hn : '\n' ∉ name)
    (ha : ∀ a ∈ args, '\n' ∉ a) (rest : Str) :
    splitNl (renderDirHeading d name args ++ '\n' :: rest) =
      [] :: (indent d ++ lit ".. " ++ name ++ lit ":: " ++ joinWith [','] args) :: splitNl rest := by
  have h1 : '\n' ∉ lit ".. " := not_mem_lit_of (by decide)
  have h2 : '\n' ∉ lit ":: " := not_mem_lit_of (by decide)
  have : '\n' ∉ indent d ++ lit ".. " ++ name ++ lit ":: " ++ joinWith [','] args := by
    simp only [List.mem_append, not_or]
    exact ⟨⟨⟨⟨indent_noNl d, h1⟩, hn⟩, h2⟩, not_mem_joinWith (by decide) ha⟩
  rw [renderDirHeading, List.cons_append, splitNl_cons_nl, splitNl_append_nl, splitNl_of_noNl this]
  rfl

theorem renderOpts_eq (d : Nat) (opts : List (Str × Str)) :
    renderOpts d opts =
      (opts.map fun nv => indent d ++ ':' :: (nv.1 ++ ':' :: ' ' :: nv.2) ++ ['\n']).flatten := by
  induction opts with
  | nil => simp [renderOpts]
  | cons o os ih =>
    obtain ⟨n, v⟩ := o
    simp [renderOpts, ih]

theorem renderOpts_split (d : Nat) (opts : List (Str × Str)) (h : ∀ nv ∈ opts, '\n' ∉ nv.1 ∧ '\n' ∉ nv.2) (rest : Str) :
    splitNl (renderOpts d opts ++ rest) =
      opts.map (fun nv => indent d ++ ':' :: (nv.1 ++ ':' :: ' ' :: nv.2)) ++ splitNl rest := by
  have e : renderOpts d opts = ((opts.map (fun nv => indent d ++ ':' :: (nv.1 ++ ':' :: ' ' :: nv.2))).map (· ++ ['\n'])).flatten := by
    rw [renderOpts_eq, List.map_map]; rfl
  rw [e, splitNl_flatten_map_nl]
  intro l hl
  obtain ⟨nv, hnv, rfl⟩ := List.mem_map.1 hl
  simp [indent_noNl d, h nv hnv]

theorem renderOpts_append (d : Nat) (o₁ o₂ : List (Str × Str)) :
    renderOpts d (o₁ ++ o₂) = renderOpts d o₁ ++ renderOpts d o₂ := by
  simp [renderOpts_eq]

theorem render_directive (d : Nat) (name : Str) (args : List Str) (opts : List (Str × Str)) (body : List Elem) :
    (Elem.directive name args opts body).render d =
      renderDirHeading d name args ++ '\n' :: renderOpts (d + 1) opts
        ++ (if body.isEmpty then [] else ['\n']) ++ renderElems (d + 1) body :=
  rfl

theorem renderElems_eq (d : Nat) (es : List Elem) : renderElems d es = es.flatMap (·.render d ++ ['\n']) := by
  induction es with
  | nil => simp [renderElems]
  | cons e es ih => simp [renderElems, ih]

theorem renderElems_nil (d : Nat) : renderElems d [] = [] := by simp [renderElems]

theorem renderElems_cons (d : Nat) (e : Elem) (es : List Elem) :
    renderElems d (e :: es) = e.render d ++ '\n' :: renderElems d es := by simp [renderElems]

theorem renderElems_append (d : Nat) (es₁ es₂ : List Elem) :
    renderElems d (es₁ ++ es₂) = renderElems d es₁ ++ renderElems d es₂ := by
  simp only [renderElems_eq, List.flatMap_append]

theorem infix_flatMap_nl {α : Type} (f : α → Str) {x : α} {l : List α} (h : x ∈ l) :
    f x <:+: l.flatMap (f · ++ ['\n']) :=
  (List.prefix_append _ _).isInfix.trans (List.infix_of_mem_flatten (List.mem_map_of_mem h))

theorem render_infix_renderElems (d : Nat) {x : Elem} {es : List Elem} (h : x ∈ es) :
    x.render d <:+: renderElems d es :=
  renderElems_eq d es ▸ infix_flatMap_nl _ h

theorem renderElems_infix_directive (d : Nat) (name : Str) (args : List Str) (opts : List (Str × Str))
    (body : List Elem) : renderElems (d + 1) body <:+: (Elem.directive name args opts body).render d :=
  render_directive d .. ▸ (List.suffix_append _ _).isInfix

/-! ## `Elem.update` / `updateAt` equations -/

section
variable (nop : NodeOp)

@[simp] theorem update_nil_directive (name : Str) (args : List Str) (opts : List (Str × Str))
    (body : List Elem) :
    Elem.update nop [] (.directive name args opts body) =
      (match nop with
       | .append e => .directive name args opts (body ++ [e])
       | .addOpt n v => .directive name args (opts ++ [(n, v)]) body
       | .setTitle t => .directive t args opts body
       | .clear => .directive name args opts []) := by
  cases nop <;> simp [Elem.update]

@[simp] theorem update_cons_directive (i : Nat) (path : List Nat) (name : Str) (args : List Str)
    (opts : List (Str × Str)) (body : List Elem) :
    Elem.update nop (i :: path) (.directive name args opts body) =
      .directive name args opts (updateAt nop i path body) := by
  simp [Elem.update]

@[simp] theorem update_para (p : List Nat) (t : Str) : Elem.update nop p (.para t) = .para t := by
  cases p <;> simp [Elem.update]

@[simp] theorem update_field (p : List Nat) (n t : Str) :
    Elem.update nop p (.field n t) = .field n t := by
  cases p <;> simp [Elem.update]

@[simp] theorem update_list (p : List Nat) (en : Bool) (items : List Str) :
    Elem.update nop p (.list en items) = .list en items := by
  cases p <;> simp [Elem.update]

theorem updateAt_eq (i : Nat) (p : List Nat) (es : List Elem) :
    updateAt nop i p es = es.modify i (Elem.update nop p) := by
  induction es generalizing i with
  | nil => simp [updateAt]
  | cons e es ih => cases i <;> simp [updateAt, ih]

theorem updateAt_getElem? (i : Nat) (path : List Nat) (es : List Elem) (j : Nat) :
    (updateAt nop i path es)[j]? = if j = i then (es[i]?).map (Elem.update nop path) else es[j]? := by
  rw [updateAt_eq, List.getElem?_modify]
  split
  · subst j; simp
  · simp [Ne.symm ‹_›]

theorem updateAt_length (i : Nat) (path : List Nat) (es : List Elem) :
    (updateAt nop i path es).length = es.length := by
  rw [updateAt_eq, List.length_modify]

end

/-! ## sub-elements along a path -/

def Elem.children : Elem → List Elem
  | .directive _ _ _ body => body
  | _ => []

def Elem.sub : Elem → List Nat → Option Elem
  | e, [] => some e
  | e, i :: rest =>
    match e.children[i]? with
    | some c => c.sub rest
    | none => none

@[simp] theorem Elem.sub_nil (e : Elem) : e.sub [] = some e := by simp [Elem.sub]

theorem Elem.sub_cons (e : Elem) (i : Nat) (rest : List Nat) :
    e.sub (i :: rest) = (e.children[i]?).bind (·.sub rest) := by
  simp only [Elem.sub]
  cases e.children[i]? <;> rfl

theorem Elem.sub_append (e : Elem) (p q : List Nat) : e.sub (p ++ q) = (e.sub p).bind (·.sub q) := by
  induction p generalizing e with
  | nil => simp
  | cons i p ih =>
    simp only [List.cons_append, Elem.sub_cons]
    cases e.children[i]? with
    | none => simp
    | some c => simp [ih]

@[simp] theorem children_update_cons (nop : NodeOp) (i : Nat) (path : List Nat) (e : Elem) :
    (e.update nop (i :: path)).children = updateAt nop i path e.children := by
  cases e <;> simp [Elem.children, updateAt]

theorem Elem.render_sub {e e' : Elem} {p : List Nat} (d : Nat) (h : e.sub p = some e') :
    e'.render (d + p.length) <:+: e.render d := by
  induction p generalizing e d with
  | nil => cases h; exact List.infix_refl _
  | cons i p ih =>
    rw [Elem.sub_cons] at h
    obtain ⟨c, hc, hs⟩ := Option.bind_eq_some_iff.1 h
    cases e with
    | directive name args opts body =>
      have := ((ih (d + 1) hs).trans (render_infix_renderElems (d + 1) (List.mem_of_getElem? hc))).trans
        (renderElems_infix_directive d name args opts body)
      simpa [Nat.add_assoc, Nat.add_comm 1] using this
    | _ => simp [Elem.children] at hc

theorem Elem.sub_update_prefix (nop : NodeOp) (e : Elem) (p q : List Nat) :
    (e.update nop (p ++ q)).sub p = (e.sub p).map (Elem.update nop q) := by
  induction p generalizing e with
  | nil => simp
  | cons i p ih =>
    simp only [List.cons_append, Elem.sub_cons, children_update_cons, updateAt_getElem?, if_true]
    cases e.children[i]? with
    | none => simp
    | some c => simp [ih]

theorem children_update_nil_getElem? {nop : NodeOp} (hnc : nop ≠ .clear) {e c : Elem} {j : Nat}
    (hj : e.children[j]? = some c) : (e.update nop []).children[j]? = some c := by
  cases e with
  | directive name args opts body =>
    cases nop with
    | append a => exact (List.getElem?_append_left (List.getElem?_eq_some_iff.1 hj).1).trans hj
    | clear => exact absurd rfl hnc
    | _ => exact hj
  | _ => cases hj

/-- An operation at the handle `h` leaves the element at `p` untouched when `p` is neither `h` nor an ancestor of `h`
    (`hp`) and, in case the operation is `clear`, `p` does not lie below `h` either (`hc`: `clear` alone removes what
    is below its handle).  With `Elem.sub_update_prefix` this covers every way a path can relate to the handle of an
    operation, except below a `clear`, where no element is left. -/
theorem Elem.sub_update_other {nop : NodeOp} {e x : Elem} {h p : List Nat}
    (hp : ¬ p <+: h) (hc : nop ≠ .clear ∨ ¬ h <+: p) (hx : e.sub p = some x) :
    (e.update nop h).sub p = some x := by
  induction p generalizing e h with
  | nil => exact absurd List.nil_prefix hp
  | cons j p ih =>
    rw [Elem.sub_cons] at hx
    obtain ⟨c, hj, hx⟩ := Option.bind_eq_some_iff.1 hx
    cases h with
    | nil =>
      rw [Elem.sub_cons, children_update_nil_getElem? (hc.resolve_right (· List.nil_prefix)) hj]
      exact hx
    | cons i h =>
      rw [Elem.sub_cons, children_update_cons, updateAt_getElem?]
      by_cases hji : j = i
      · subst hji
        rw [if_pos rfl, hj]
        exact ih (fun hpre => hp (List.cons_prefix_cons.2 ⟨rfl, hpre⟩))
          (hc.imp_right fun hc hpre => hc (List.cons_prefix_cons.2 ⟨rfl, hpre⟩)) hx
      · rw [if_neg hji, hj]
        exact hx

/-! ## a document as a pseudo-directive -/

/-- the root writer seen as an element whose children are the document body -/
def Doc.asElem (w : Doc) : Elem := .directive [] [] [] w.body

@[simp] theorem Doc.asElem_children (w : Doc) : w.asElem.children = w.body := rfl

theorem Doc.renderElems_suffix_render (w : Doc) : renderElems 0 w.body <:+ w.render :=
  (List.suffix_cons _ _).trans (List.suffix_append _ _)

theorem Doc.update_body (w : Doc) (nop : NodeOp) (h : List Nat) :
    (w.update nop h).body = (w.asElem.update nop h).children := by
  cases h with
  | nil => cases nop <;> simp [Doc.update, Doc.asElem, Elem.children]
  | cons i path => simp [Doc.update, Doc.asElem, Elem.children]

/-- For `.append` only: at the handle `[]`, `setTitle` and `addOpt` set the document's title or do nothing, whereas on
    `asElem` they would fill in the empty name and the empty option list of the pseudo-directive.  `Doc.update_body`
    is the part that holds for every operation. -/
theorem Doc.asElem_update_append (w : Doc) (e : Elem) (h : List Nat) :
    (w.update (.append e) h).asElem = w.asElem.update (.append e) h := by
  cases h <;> rfl

theorem Doc.update_hc (w : Doc) (nop : NodeOp) (h : List Nat) : (w.update nop h).hc = w.hc := by
  cases h with
  | nil => cases nop <;> simp [Doc.update]
  | cons i path => simp [Doc.update]

theorem Doc.update_title (w : Doc) (nop : NodeOp) (h : List Nat) :
    (w.update nop h).title = match nop, h with | .setTitle t, [] => t | _, _ => w.title := by
  cases h <;> cases nop <;> rfl

theorem Doc.update_title_cons (w : Doc) (nop : NodeOp) (i : Nat) (path : List Nat) :
    (w.update nop (i :: path)).title = w.title := by
  simp [Doc.update]

theorem Doc.run_nil (w : Doc) : w.run [] = w := rfl

theorem Doc.run_cons (w : Doc) (op : Op) (ops : List Op) : w.run (op :: ops) = (w.apply op).run ops := rfl

theorem Doc.run_append (w : Doc) (ops₁ ops₂ : List Op) : w.run (ops₁ ++ ops₂) = (w.run ops₁).run ops₂ := by
  simp [Doc.run]

end Cminx
