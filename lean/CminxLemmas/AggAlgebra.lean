import CminxLemmas.SpecEq
import CminxLemmas.Except
/-!
The algebra of the listener's deferred mutations (`CminxModel/Agg.lean`).

The listener mutates entries it stored earlier: `has_kwargs` of the definition on top of the definition stack, the
member lists of the class on top of the class stack, the parameters of the entry that awaits its definition.
The lemmas say how the states after two lists of items compose (`post_post`), how a definition or class frame wraps the
effect of its body (`wrapSome` … `wrapClsHidden`), and that the completion of the awaiting entry commutes with what
single commands do (`claimed_post`, `claimedAny_post`).

They hold of states whose stack indices and awaiting reference point into `documented`: `Inv` (nothing awaits a
definition: between two items), `InvP` (the entry `ref` awaits one: between a shown declaration and its definition),
and `InvA`, which reads off the state which of the two applies.  `ctxOf` reads the class context of `Item.spec` off
the class stack; every statement from the frames on is written with it.
-/
namespace Cminx

theorem modify_append_lt {α} (f : α → α) (l m : List α) (i : Nat) (h : i < l.length) :
    (l ++ m).modify i f = l.modify i f ++ m := by
  induction l generalizing i with
  | nil => simp at h
  | cons a l ih => cases i with
    | zero => simp
    | succ i => simp at h; simp [ih i h]

theorem modify_append_len {α} (f : α → α) (l m : List α) (a : α) :
    (l ++ a :: m).modify l.length f = l ++ f a :: m := by
  induction l with
  | nil => simp
  | cons b l ih => simp [ih]

theorem modify_comm {α} (f g : α → α) (h : ∀ x, f (g x) = g (f x)) (l : List α) (i j : Nat) :
    (l.modify i f).modify j g = (l.modify j g).modify i f := by
  induction l generalizing i j with
  | nil => simp
  | cons a l ih =>
    cases i <;> cases j <;> simp [h, ih]

theorem modify_congr_at {α} (f g : α → α) (l : List α) (i : Nat)
    (h : ∀ x, l[i]? = some x → f x = g x) : l.modify i f = l.modify i g := by
  induction l generalizing i with
  | nil => simp
  | cons a l ih =>
    cases i with
    | zero => simp [h a (by simp)]
    | succ i => simp; exact ih i (fun x hx => h x (by simpa using hx))

/-- every index on a stack points into a list of length `n` -/
def InRange (stk : List (Option Nat)) (n : Nat) : Prop := ∀ i, some i ∈ stk → i < n

theorem InRange.mono {stk : List (Option Nat)} {n m : Nat} (h : InRange stk n) (hnm : n ≤ m) : InRange stk m :=
  fun i hi => Nat.lt_of_lt_of_le (h i hi) hnm

theorem InRange.cons_some {stk : List (Option Nat)} {n i : Nat} (h : InRange stk n) (hi : i < n) :
    InRange (some i :: stk) n := by
  simpa [InRange, hi] using h

theorem InRange.cons_none {stk : List (Option Nat)} {n : Nat} (h : InRange stk n) : InRange (none :: stk) n := by
  simpa [InRange] using h

/-- extend the four member lists of a class entry -/
def ext4 (i : List Str) (ct m : List Method) (a : List Attr) : Entry → Entry
  | .cls n d s i0 c0 m0 a0 => .cls n d s (i0 ++ i) (c0 ++ ct) (m0 ++ m) (a0 ++ a)
  | e => e

@[simp] theorem ext4_nil : ext4 [] [] [] [] = id := by
  funext e
  cases e <;> simp [ext4]

theorem ext4_ext4 (i1 i2 c1 c2 m1 m2 a1 a2) :
    ext4 i2 c2 m2 a2 ∘ ext4 i1 c1 m1 a1 = ext4 (i1 ++ i2) (c1 ++ c2) (m1 ++ m2) (a1 ++ a2) := by
  funext e
  cases e <;> simp [ext4]

theorem setKwargs_ext4 (i c m a) (e : Entry) : setKwargs (ext4 i c m a e) = ext4 i c m a (setKwargs e) := by
  cases e <;> simp [ext4, setKwargs]

theorem setKwargs_idem : setKwargs ∘ setKwargs = setKwargs := by
  funext e
  cases e <;> simp [setKwargs]

theorem addInner_eq (n : Str) : addInner n = ext4 [n] [] [] [] := by
  funext e; cases e <;> simp [addInner, ext4]

theorem addAttr_eq (a : Attr) : addAttr a = ext4 [] [] [] [a] := by
  funext e; cases e <;> simp [addAttr, ext4]

theorem addMethod_eq (isCtor : Bool) (md : Method) :
    addMethod isCtor md = if isCtor then ext4 [] [md] [] [] else ext4 [] [] [md] [] := by
  funext e; cases e <;> cases isCtor <;> simp [addMethod, ext4]

/-- the definition that claims a freshly declared method completes it in place -/
theorem defineMethodIn_addMethod (isCtor isMacro : Bool) (extra : List Str) (md : Method) (e : Entry) :
    defineMethodIn isCtor (methodCount isCtor e) isMacro extra (addMethod isCtor md e) =
      addMethod isCtor (md.define isMacro extra) e := by
  cases e <;> cases isCtor <;> simp [defineMethodIn, methodCount, addMethod, modify_append_len]

theorem modify_define_addMethod (l : List Entry) (ci : Nat) (ic m : Bool) (x : List Str) (md : Method) :
    (l.modify ci (addMethod ic md)).modify ci (defineMethodIn ic (methodCount ic (l.getD ci default)) m x) =
      l.modify ci (addMethod ic (md.define m x)) := by
  rw [List.modify_modify_eq]
  apply modify_congr_at
  intro y hy
  have : l.getD ci default = y := by simp [List.getD, hy]
  simp only [Function.comp, this, defineMethodIn_addMethod]

theorem defineEntry_setKwargs (m : Bool) (x : List Str) (e : Entry) :
    defineEntry m x (setKwargs e) = setKwargs (defineEntry m x e) := by
  cases e <;> simp [defineEntry, setKwargs]

theorem defineEntry_ext4 (m : Bool) (x : List Str) (i c mm a) (e : Entry) :
    defineEntry m x (ext4 i c mm a e) = ext4 i c mm a (defineEntry m x e) := by
  cases e <;> simp [defineEntry, ext4]

theorem defineMethodIn_setKwargs (ic : Bool) (pos : Nat) (m : Bool) (x : List Str) (e : Entry) :
    defineMethodIn ic pos m x (setKwargs e) = setKwargs (defineMethodIn ic pos m x e) := by
  cases e <;> cases ic <;> simp [defineMethodIn, setKwargs]

theorem defineMethodIn_ext4_attrs (ic : Bool) (pos : Nat) (m : Bool) (x : List Str) (a : List Attr) (e : Entry) :
    defineMethodIn ic pos m x (ext4 [] [] [] a e) = ext4 [] [] [] a (defineMethodIn ic pos m x e) := by
  cases e <;> cases ic <;> simp [defineMethodIn, ext4]

/-- `has_kwargs = True` on the definition on top of the definition stack -/
def markKw (docd : List Entry) (ds : List (Option Nat)) (kw : Bool) : List Entry :=
  match ds, kw with
  | some i :: _, true => docd.modify i setKwargs
  | _, _ => docd

/-- the members contributed to the class on top of the class stack -/
def absorbCls (docd : List Entry) (cs : List (Option Nat)) (c : Contrib) : List Entry :=
  match cs with
  | some j :: _ => docd.modify j (ext4 c.inner c.ctors c.members c.attrs)
  | _ => docd

@[simp] theorem markKw_false (l ds) : markKw l ds false = l := by
  unfold markKw; split <;> simp_all
@[simp] theorem markKw_nil (l k) : markKw l [] k = l := by
  unfold markKw; split <;> simp_all
@[simp] theorem markKw_none (l ds k) : markKw l (none :: ds) k = l := by
  unfold markKw; split <;> simp_all
@[simp] theorem markKw_length (l ds k) : (markKw l ds k).length = l.length := by
  unfold markKw; split <;> simp

theorem markKw_markKw (l ds a b) : markKw (markKw l ds a) ds b = markKw l ds (a || b) := by
  rcases ds with _ | ⟨_ | i, ds⟩ <;> cases a <;> cases b <;> simp [markKw, List.modify_modify_eq, setKwargs_idem]

theorem markKw_append (l m : List Entry) (ds k) (h : ∀ i, some i ∈ ds → i < l.length) :
    markKw (l ++ m) ds k = markKw l ds k ++ m := by
  rcases ds with _ | ⟨_ | i, ds⟩ <;> cases k <;> simp [markKw]
  exact modify_append_lt _ _ _ _ (h i (by simp))

theorem markKw_here (l : List Entry) (e : Entry) (ds k) :
    markKw (l ++ [e]) (some l.length :: ds) k = l ++ [if k then setKwargs e else e] := by
  cases k <;> simp [markKw, modify_append_len]

@[simp] theorem absorbCls_nil (l c) : absorbCls l [] c = l := rfl
@[simp] theorem absorbCls_none (l cs c) : absorbCls l (none :: cs) c = l := rfl
@[simp] theorem absorbCls_length (l cs c) : (absorbCls l cs c).length = l.length := by
  unfold absorbCls; split <;> simp

theorem absorbCls_absorbCls (l cs a b) : absorbCls (absorbCls l cs a) cs b = absorbCls l cs (a ++ b) := by
  rcases cs with _ | ⟨_ | i, cs⟩ <;> simp [absorbCls, List.modify_modify_eq, ext4_ext4]

theorem absorbCls_append (l m : List Entry) (cs c) (h : ∀ i, some i ∈ cs → i < l.length) :
    absorbCls (l ++ m) cs c = absorbCls l cs c ++ m := by
  rcases cs with _ | ⟨_ | i, cs⟩ <;> simp [absorbCls]
  exact modify_append_lt _ _ _ _ (h i (by simp))

theorem absorbCls_here (l : List Entry) (e : Entry) (cs c) {n : Nat} (hn : n = l.length) :
    absorbCls (l ++ [e]) (some n :: cs) c = l ++ [ext4 c.inner c.ctors c.members c.attrs e] := by
  simp [absorbCls, hn, modify_append_len]

theorem absorbCls_markKw (l ds cs k c) :
    absorbCls (markKw l ds k) cs c = markKw (absorbCls l cs c) ds k := by
  rcases ds with _ | ⟨_ | i, ds⟩ <;> cases k <;> simp [markKw]
  rcases cs with _ | ⟨_ | j, cs⟩ <;> simp [absorbCls]
  exact modify_comm _ _ (fun x => setKwargs_ext4 _ _ _ _ x) _ _ _

theorem absorbCls_of_empty (l cs) (c : Contrib) (h1 : c.inner = []) (h2 : c.ctors = []) (h3 : c.members = [])
    (h4 : c.attrs = []) : absorbCls l cs c = l := by
  rcases cs with _ | ⟨_ | j, cs⟩ <;> simp [absorbCls, h1, h2, h3, h4]

/-- net effect of items with `cmake_parse_arguments` flag `kw` and contribution `c` on the existing entries -/
def absorb (docd : List Entry) (ds cs : List (Option Nat)) (kw : Bool) (c : Contrib) : List Entry :=
  absorbCls (markKw docd ds kw) cs c

/-- the state after a list of items that (directly) contains a `cmake_parse_arguments` iff `kw` and
    contributes `c` -/
def post (st : AggState) (kw : Bool) (c : Contrib) : AggState :=
  { st with documented := absorb st.documented st.defStack st.classStack kw c ++ c.top }

/-- what holds between two items -/
structure Inv (st : AggState) : Prop where
  aw : st.awaiting = none
  ds : ∀ i, some i ∈ st.defStack → i < st.documented.length
  cs : ∀ i, some i ∈ st.classStack → i < st.documented.length

@[simp] theorem post_defStack (st kw c) : (post st kw c).defStack = st.defStack := rfl
@[simp] theorem post_classStack (st kw c) : (post st kw c).classStack = st.classStack := rfl
@[simp] theorem post_awaiting (st kw c) : (post st kw c).awaiting = st.awaiting := rfl
@[simp] theorem post_errors (st kw c) : (post st kw c).errors = st.errors := rfl

theorem post_documented (st kw c) :
    (post st kw c).documented = absorbCls (markKw st.documented st.defStack kw) st.classStack c ++ c.top := rfl

theorem post_length_le (st : AggState) (kw c) : st.documented.length ≤ (post st kw c).documented.length := by
  simp [post_documented]

theorem Inv.post {st : AggState} (h : Inv st) (kw c) : Inv (post st kw c) :=
  ⟨h.aw, InRange.mono h.ds (post_length_le st kw c), InRange.mono h.cs (post_length_le st kw c)⟩

theorem post_empty (st : AggState) : post st false {} = st := by
  obtain ⟨d, cs, aw, ds, er⟩ := st
  simp [post, absorb, absorbCls_of_empty]

theorem post_top (st : AggState) (t : List Entry) :
    post st false { top := t } = { st with documented := st.documented ++ t } := by
  simp [post, absorb, absorbCls_of_empty]

theorem ok_post_ite (st : AggState) (p : Prop) [Decidable p] (c : Contrib) :
    (if p then Except.ok (post st false c) else .ok st : AggM AggState) =
      .ok (post st false (if p then c else {})) := by
  split <;> simp [post_empty]

theorem post_post {st : AggState} (h : Inv st) (k1 k2 c1 c2) :
    post (post st k1 c1) k2 c2 = post st (k1 || k2) (c1 ++ c2) := by
  simp only [post, absorb, Contrib.append_top]
  -- `c1.top` lies above every stack index and comes out of `markKw` and `absorbCls`; then both sides are brought to the
  -- form `markKw (absorbCls docd cs _) ds _ ++ _` (`absorbCls_markKw` moves `markKw` outwards), in which like operations
  -- meet and merge
  rw [markKw_append _ _ _ _ (by simpa using h.ds), absorbCls_append _ _ _ _ (by simpa using h.cs),
    absorbCls_markKw, absorbCls_markKw, absorbCls_markKw, markKw_markKw, absorbCls_absorbCls, absorbCls_markKw,
    List.append_assoc]

/-! ## frames: the state inside a definition or class, and the net effect once the frame is popped -/

/-- the class context the class stack encodes -/
def ctxOf : List (Option Nat) → ClsCtx
  | [] => .none
  | none :: _ => .hidden
  | some _ :: _ => .shown

theorem Inv.pushDef {st : AggState} (h : Inv st) (e : Entry) :
    Inv { st with documented := st.documented ++ [e], defStack := some st.documented.length :: st.defStack } :=
  ⟨h.aw, (InRange.mono h.ds (by simp)).cons_some (by simp), InRange.mono h.cs (by simp)⟩

theorem Inv.pushNone {st : AggState} (h : Inv st) : Inv { st with defStack := none :: st.defStack } :=
  ⟨h.aw, InRange.cons_none h.ds, h.cs⟩

theorem Inv.pushClsNone {st : AggState} (h : Inv st) : Inv { st with classStack := none :: st.classStack } :=
  ⟨h.aw, h.ds, InRange.cons_none h.cs⟩

theorem Inv.pushCls {st : AggState} (h : Inv st) (c : Contrib) (e : Entry) :
    Inv { st with documented := absorbCls st.documented st.classStack c ++ [e],
                  classStack := some st.documented.length :: st.classStack } :=
  ⟨h.aw, InRange.mono h.ds (by simp), (InRange.mono h.cs (by simp)).cons_some (by simp)⟩

/-- a definition with an entry: the body's `cmake_parse_arguments` raises the entry's flag -/
theorem wrapSome (st : AggState) (h : Inv st) (e0 : Entry) (kwb : Bool) (cb : Contrib) :
    { post { st with documented := st.documented ++ [e0],
                     defStack := some st.documented.length :: st.defStack } kwb cb with
      defStack := st.defStack } =
    post st false ({ top := [if kwb then setKwargs e0 else e0] } ++ cb) := by
  simp only [post, absorb, markKw_here, markKw_false, Contrib.append_top]
  rw [absorbCls_append _ _ _ _ h.cs]
  -- `absorbCls` reads the class part of a contribution only, and that of `{ top := _ } ++ cb` is `cb`'s
  simp [absorbCls]

/-- a definition without an entry: the frame hides the definition on top of the stack from the body's
    `cmake_parse_arguments`.  The right-hand side is written `{} ++ cb` to meet `own ++ body` in `run_def`, where an
    entry-less definition has the own contribution `{}`. -/
theorem wrapNone (st : AggState) (kwb : Bool) (cb : Contrib) :
    { post { st with defStack := none :: st.defStack } kwb cb with defStack := st.defStack } =
    post st false ({} ++ cb) := by
  simp [post, absorb]

/-- a class with an entry: the body's members end up in the entry, its name in the enclosing shown class -/
theorem wrapCls (st : AggState) (h : Inv st) (name doc : Str) (supers : List Str) (kwb : Bool) (b : Contrib) :
    { post { st with documented := absorbCls st.documented st.classStack { inner := [name] } ++
                        [.cls name doc supers [] [] [] []],
                     classStack := some st.documented.length :: st.classStack } kwb b with
      classStack := st.classStack } =
    post st kwb { top := .cls name doc supers b.inner b.ctors b.members b.attrs :: b.top,
                  inner := if ctxOf st.classStack = .shown then [name] else [] } := by
  simp only [post, absorb]
  rw [markKw_append _ _ _ _ (by simpa using h.ds)]
  rw [absorbCls_here _ _ _ _ (by simp), ← absorbCls_markKw]
  rcases st.classStack with _ | ⟨_ | j, cs⟩ <;> simp [absorbCls, ext4, ctxOf]

theorem wrapClsHidden (st : AggState) (kwb : Bool) (b : Contrib) :
    { post { st with classStack := none :: st.classStack } kwb b with classStack := st.classStack } =
    post st kwb { top := b.top } := by
  simp [post, absorb, absorbCls_of_empty]

/-! ## the completion of the awaiting entry -/

/-- the mutation the claiming definition `impl` applies to `documented` -/
def claimMod (cfg : Cfg) (ref : AwaitRef) (impl : Option Call) (docd : List Entry) : List Entry :=
  match impl with
  | none => docd
  | some i =>
    match ref with
    | .entry idx => docd.modify idx (defineEntry (i.lname = lit "macro") (i.singles.drop 2))
    | .method ci isCtor pos =>
      docd.modify ci (defineMethodIn isCtor pos (i.lname = lit "macro") ((i.singles.map cfg.stripMember).drop 2))

/-- the state with the awaiting entry completed by `impl` and nothing awaiting any more -/
def claimed (cfg : Cfg) (s : AggState) (ref : AwaitRef) (impl : Option Call) : AggState :=
  { s with documented := claimMod cfg ref impl s.documented, awaiting := none }

/-- the reference points into a `documented` list of length `n` -/
def AwaitRef.inRange : AwaitRef → Nat → Prop
  | .entry idx, n => idx < n
  | .method ci _ _, n => ci < n

theorem AwaitRef.inRange.mono {ref : AwaitRef} {n m : Nat} (h : ref.inRange n) (hnm : n ≤ m) : ref.inRange m := by
  cases ref <;> exact Nat.lt_of_lt_of_le h hnm

/-- what holds between a shown declaration and its definition -/
structure InvP (s : AggState) (ref : AwaitRef) : Prop where
  aw : s.awaiting = some ref
  ds : ∀ i, some i ∈ s.defStack → i < s.documented.length
  cs : ∀ i, some i ∈ s.classStack → i < s.documented.length
  rf : ref.inRange s.documented.length

@[simp] theorem claimMod_length (cfg ref impl docd) : (claimMod cfg ref impl docd).length = docd.length := by
  unfold claimMod
  cases impl <;> cases ref <;> simp

@[simp] theorem seq_claimed_defStack (cfg s ref impl) : (claimed cfg s ref impl).defStack = s.defStack := rfl
@[simp] theorem seq_claimed_classStack (cfg s ref impl) : (claimed cfg s ref impl).classStack = s.classStack := rfl
@[simp] theorem seq_claimed_awaiting (cfg s ref impl) : (claimed cfg s ref impl).awaiting = none := rfl
@[simp] theorem seq_claimed_errors (cfg s ref impl) : (claimed cfg s ref impl).errors = s.errors := rfl

theorem InvP.claimed {s : AggState} {ref : AwaitRef} (h : InvP s ref) (cfg : Cfg) (impl : Option Call) :
    Inv (claimed cfg s ref impl) :=
  ⟨rfl, InRange.mono h.ds (by simp [Cminx.claimed]), InRange.mono h.cs (by simp [Cminx.claimed])⟩

theorem InvP.post {s : AggState} {ref : AwaitRef} (h : InvP s ref) (kw : Bool) (c : Contrib) :
    InvP (post s kw c) ref :=
  ⟨h.aw, InRange.mono h.ds (post_length_le s kw c), InRange.mono h.cs (post_length_le s kw c),
    h.rf.mono (post_length_le s kw c)⟩

theorem claimDefinition_eq (cfg : Cfg) (s : AggState) (ref : AwaitRef) (o : Call) :
    claimDefinition cfg s ref (decide (o.lname = lit "macro")) o.toCmd =
      { claimed cfg s ref (some o) with defStack := none :: (claimed cfg s ref (some o)).defStack } := by
  cases ref <;> rfl

theorem claimMod_append (cfg : Cfg) (ref : AwaitRef) (impl : Option Call) (docd : List Entry) (e : Entry)
    (hr : ref.inRange docd.length) :
    claimMod cfg ref impl (docd ++ [e]) = claimMod cfg ref impl docd ++ [e] := by
  cases impl with
  | none => rfl
  | some i =>
    cases ref with
    | entry idx => exact modify_append_lt _ _ _ _ hr
    | method ci ic pos => exact modify_append_lt _ _ _ _ hr

/-- a mutation of an old entry that commutes with `setKwargs` and with adding attributes commutes with the
    deferred effects of single commands -/
theorem modify_absorb_comm (f : Entry → Entry) (hk : ∀ e, f (setKwargs e) = setKwargs (f e))
    (ha : ∀ a e, f (ext4 [] [] [] a e) = ext4 [] [] [] a (f e))
    (docd : List Entry) (ds cs : List (Option Nat)) (kw : Bool) (c : Contrib) (i : Nat) (hi : i < docd.length)
    (hc : c.inner = [] ∧ c.ctors = [] ∧ c.members = []) :
    (absorbCls (markKw docd ds kw) cs c ++ c.top).modify i f =
      absorbCls (markKw (docd.modify i f) ds kw) cs c ++ c.top := by
  rw [modify_append_lt _ _ _ _ (by simpa using hi)]
  congr 1
  have hm : (markKw docd ds kw).modify i f = markKw (docd.modify i f) ds kw := by
    rcases ds with _ | ⟨_ | j, ds⟩ <;> cases kw <;> simp [markKw]
    exact modify_comm _ _ (fun e => (hk e).symm) _ _ _
  rw [← hm]
  rcases cs with _ | ⟨_ | j, cs⟩ <;> simp [absorbCls, hc]
  exact modify_comm _ _ (fun e => (ha _ e).symm) _ _ _

theorem claimMod_absorb (cfg : Cfg) (ref : AwaitRef) (impl : Option Call)
    (docd : List Entry) (ds cs : List (Option Nat)) (kw : Bool) (c : Contrib)
    (hr : ref.inRange docd.length) (hc : c.inner = [] ∧ c.ctors = [] ∧ c.members = []) :
    claimMod cfg ref impl (absorbCls (markKw docd ds kw) cs c ++ c.top) =
      absorbCls (markKw (claimMod cfg ref impl docd) ds kw) cs c ++ c.top := by
  cases impl with
  | none => rfl
  | some i =>
    cases ref with
    | entry idx =>
      exact modify_absorb_comm _ (defineEntry_setKwargs _ _) (fun a e => defineEntry_ext4 _ _ _ _ _ _ e) _ _ _ _ _ _ hr
        hc
    | method ci ic pos =>
      exact modify_absorb_comm _ (defineMethodIn_setKwargs _ _ _ _) (fun a e => defineMethodIn_ext4_attrs _ _ _ _ a e)
        _ _ _ _ _ _ hr hc

theorem claimed_post (cfg : Cfg) (s : AggState) (ref : AwaitRef) (impl : Option Call) (h : InvP s ref)
    (kw : Bool) (c : Contrib) (hc : c.inner = [] ∧ c.ctors = [] ∧ c.members = []) :
    claimed cfg (post s kw c) ref impl = post (claimed cfg s ref impl) kw c := by
  simp only [claimed, post, absorb]
  rw [claimMod_absorb cfg ref impl _ _ _ _ _ h.rf hc]

/-! ## whatever awaits a definition

A `function`/`macro` command completes the entry in the awaiting slot if there is one.  `claimedAny` and `InvA` read
the slot off the state, so that one statement covers the commands between a declaration and its definition and all
others. -/

/-- the state once the definition `impl` has completed the entry in the awaiting slot, if there is one -/
def claimedAny (cfg : Cfg) (s : AggState) (impl : Option Call) : AggState :=
  match s.awaiting with
  | some ref => claimed cfg s ref impl
  | none => s

/-- what holds between two commands — `InvP` while an entry awaits its definition, `Inv` otherwise -/
def InvA (s : AggState) : Prop :=
  match s.awaiting with
  | some ref => InvP s ref
  | none => Inv s

section
variable {cfg : Cfg} {s : AggState} {ref : AwaitRef} {impl : Option Call}

theorem claimedAny_none (h : s.awaiting = none) : claimedAny cfg s impl = s := by
  simp only [claimedAny, h]

theorem claimedAny_some (h : s.awaiting = some ref) : claimedAny cfg s impl = claimed cfg s ref impl := by
  simp only [claimedAny, h]

@[simp] theorem claimedAny_classStack : (claimedAny cfg s impl).classStack = s.classStack := by
  cases h : s.awaiting with
  | none => rw [claimedAny_none h]
  | some ref => rw [claimedAny_some h, seq_claimed_classStack]

@[simp] theorem claimedAny_awaiting : (claimedAny cfg s impl).awaiting = none := by
  cases h : s.awaiting with
  | none => rw [claimedAny_none h, h]
  | some ref => rw [claimedAny_some h, seq_claimed_awaiting]

theorem Inv.toA (h : Inv s) : InvA s := by
  simpa only [InvA, h.aw] using h

theorem InvP.toA (h : InvP s ref) : InvA s := by
  simpa only [InvA, h.aw] using h

theorem InvA.inv (h : InvA s) (ha : s.awaiting = none) : Inv s := by
  simpa only [InvA, ha] using h

theorem InvA.invP (h : InvA s) (ha : s.awaiting = some ref) : InvP s ref := by
  simpa only [InvA, ha] using h

theorem InvA.claimedAny (h : InvA s) (cfg : Cfg) (impl : Option Call) : Inv (claimedAny cfg s impl) := by
  cases ha : s.awaiting with
  | none =>
    rw [claimedAny_none ha]
    exact h.inv ha
  | some ref =>
    rw [claimedAny_some ha]
    exact (h.invP ha).claimed cfg impl

theorem InvA.post (h : InvA s) (kw : Bool) (c : Contrib) : InvA (post s kw c) := by
  cases ha : s.awaiting with
  | none => exact ((h.inv ha).post kw c).toA
  | some ref => exact ((h.invP ha).post kw c).toA

theorem claimedAny_post (h : InvA s) (kw : Bool) (c : Contrib) (hc : c.inner = [] ∧ c.ctors = [] ∧ c.members = []) :
    claimedAny cfg (post s kw c) impl = post (claimedAny cfg s impl) kw c := by
  cases ha : s.awaiting with
  | none => rw [claimedAny_none ha, claimedAny_none (s := post s kw c) ha]
  | some ref =>
    rw [claimedAny_some ha, claimedAny_some (s := post s kw c) ha]
    exact claimed_post cfg s ref impl (h.invP ha) kw c hc

/-- `p` says that a declaration is still without its definition; only then can an entry be in the awaiting slot -/
theorem awaiting_none_of {p : Bool} (hp : s.awaiting.isSome = true → p = true) (h : p = false) :
    s.awaiting = none := by
  cases ha : s.awaiting with
  | none => rfl
  | some _ => simp [ha, h] at hp

end

end Cminx
