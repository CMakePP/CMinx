/-!
Generic facts about the `Except` monad, which every layer of the model uses for the errors the code raises.
-/
namespace Cminx

deriving instance DecidableEq for Except

@[simp] theorem except_ok_bind {ε α β : Type} (x : α) (f : α → Except ε β) :
    (Except.ok x >>= f) = f x := rfl

@[simp] theorem except_pure_eq {ε α : Type} (x : α) : (pure x : Except ε α) = Except.ok x := rfl

/-- "`e` ends normally with a result satisfying `p`" is decidable, so that a closed instance costs one kernel
    evaluation of `e` -/
instance _root_.Except.decidableExistsOk {ε α : Type} (e : Except ε α) (p : α → Prop) [DecidablePred p] :
    Decidable (∃ a, e = .ok a ∧ p a) :=
  match e with
  | .ok a => decidable_of_iff (p a) ⟨fun h => ⟨a, rfl, h⟩, fun ⟨_, h, hp⟩ => by cases h; exact hp⟩
  | .error _ => isFalse fun ⟨_, h, _⟩ => by cases h

theorem _root_.Except.bind_eq_ok {ε α β : Type} {x : Except ε α} {f : α → Except ε β} {b : β} :
    (x >>= f) = .ok b ↔ ∃ a, x = .ok a ∧ f a = .ok b := by
  cases x with
  | ok a => simp
  | error e => exact ⟨nofun, nofun⟩

theorem mapM_except_eq_map {α β ε : Type} {f : α → Except ε β} {g : α → β} (hg : ∀ a b, f a = .ok b → b = g a) :
    ∀ {l : List α} {out : List β}, l.mapM f = .ok out → out = l.map g
  | [], out, h => by
    cases h
    rfl
  | x :: xs, out, h => by
    rw [List.mapM_cons] at h
    obtain ⟨b, hx, h⟩ := Except.bind_eq_ok.mp h
    obtain ⟨bs, hxs, h⟩ := Except.bind_eq_ok.mp h
    cases h
    rw [List.map_cons, ← hg x b hx, ← mapM_except_eq_map hg hxs]

theorem _root_.Except.map_ok_inv {ε α β} {f : α → β} {x : Except ε α} {y : β} (h : x.map f = .ok y) :
    ∃ a, x = .ok a ∧ y = f a := by
  cases x with
  | error e => cases h
  | ok a =>
    cases h
    exact ⟨a, rfl, rfl⟩

theorem _root_.Except.map_error_inv {ε α β} {f : α → β} {x : Except ε α} {e : ε} (h : x.map f = .error e) : x = .error e := by
  cases x with
  | error e' =>
    cases h
    rfl
  | ok a => cases h

end Cminx
