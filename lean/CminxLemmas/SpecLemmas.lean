import CminxLemmas.SpecEq
/-!
The structural specification (`CminxModel/Spec.lean`) beyond its equations (`SpecEq.lean`): the spec-side notions that C02, C03,
C04 and C08–C11 are stated with, and their lemmas.  Nothing here rests on the listener.
-/
namespace Cminx

/-! ## arguments written as plain tokens -/

theorem toArgs_toks (ts : List (Sep × ArgTok)) :
    toArgs (ts.map (fun p => SArg.tok p.1 p.2)) = ts.map (fun p => Arg.single p.2.text) := by
  induction ts with
  | nil => simp [toArgs]
  | cons t ts ih => simp [toArgs, SArg.toArg, ih]

theorem singlesOf_toArgs_toks (ts : List (Sep × ArgTok)) :
    singlesOf (toArgs (ts.map (fun p => SArg.tok p.1 p.2))) = ts.map (fun p => p.2.text) := by
  rw [toArgs_toks]
  induction ts with
  | nil => rfl
  | cons t ts ih => simp [singlesOf, ih]

theorem argTexts_toArgs_toks (ts : List (Sep × ArgTok)) :
    argTexts (toArgs (ts.map (fun p => SArg.tok p.1 p.2))) = ts.map (fun p => p.2.text) := by
  rw [toArgs_toks]
  induction ts with
  | nil => rfl
  | cons t ts ih => simp [argTexts, Arg.text, ih]

theorem Call.singles_toks (c : Call) (ts : List (Sep × ArgTok))
    (h : c.args = ts.map (fun p => SArg.tok p.1 p.2)) : c.singles = ts.map (fun p => p.2.text) := by
  simp [Call.singles, Call.toCmd, Cmd.singles, h, singlesOf_toArgs_toks]

/-! ## `itemsSpec`, `itemsCpaDirect` over lists -/

theorem itemsSpec_nil (cfg : Cfg) (ctx : ClsCtx) : itemsSpec cfg ctx [] = {} := by simp [itemsSpec]
theorem itemsSpec_cons (cfg : Cfg) (ctx : ClsCtx) (i : Item) (is : List Item) :
    itemsSpec cfg ctx (i :: is) = i.spec cfg ctx ++ itemsSpec cfg ctx is := by simp [itemsSpec]

theorem itemsSpec_append (cfg : Cfg) (ctx : ClsCtx) (a b : List Item) :
    itemsSpec cfg ctx (a ++ b) = itemsSpec cfg ctx a ++ itemsSpec cfg ctx b := by
  induction a with
  | nil => simp [itemsSpec_nil]
  | cons i is ih => simp [itemsSpec_cons, ih, Contrib.append_assoc]

theorem itemsSpec_append_cons_top (cfg : Cfg) (ctx : ClsCtx) (pre post : List Item) (it : Item) :
    (itemsSpec cfg ctx (pre ++ it :: post)).top =
      (itemsSpec cfg ctx pre).top ++ (it.spec cfg ctx).top ++ (itemsSpec cfg ctx post).top := by
  simp [itemsSpec_append, itemsSpec_cons]

theorem itemsCpaDirect_append (a b : List Item) :
    itemsCpaDirect (a ++ b) = (itemsCpaDirect a || itemsCpaDirect b) := by
  induction a with
  | nil => simp [itemsCpaDirect]
  | cons i is ih => simp [itemsCpaDirect, ih, Bool.or_assoc]

theorem cpaDirect_block_def {doc : Option DocC} {o : Call} {body : List Item} {c : Call}
    (hn : o.lname = lit "function" ∨ o.lname = lit "macro") : (Item.block doc o body c).cpaDirect = false := by
  rcases hn with hn | hn <;> simp [Item.cpaDirect, hn, isLoopName]

theorem cpaDirect_block_through {doc : Option DocC} {o : Call} {body : List Item} {c : Call}
    (hn : isLoopName o.lname = true ∨ o.lname = lit "cpp_class") :
    (Item.block doc o body c).cpaDirect = itemsCpaDirect body := by
  rcases hn with hn | hn <;> simp [Item.cpaDirect, hn]

theorem Module.entries_eq (cfg : Cfg) (m : Module) :
    m.entries cfg =
      (match m.modDoc with
       | some d => [Entry.module (moduleNameDoc d.tokenText).1 (moduleNameDoc d.tokenText).2]
       | none => []) ++ (itemsSpec cfg .none m.items).top := by
  rw [Module.entries]
  -- `simp only []`, not `rfl`: `rfl` unfolds `moduleNameDoc` before it tries the eta-expansion of the pair
  cases m.modDoc <;> simp only []

theorem Module.entries_of_items (cfg : Cfg) {m : Module} {pre post : List Item} {it : Item}
    (h : m.items = pre ++ it :: post) :
    ∃ front, m.entries cfg = front ++ ((it.spec cfg .none).top ++ (itemsSpec cfg .none post).top) :=
  ⟨_, by rw [Module.entries, h, itemsSpec_append_cons_top, List.append_assoc, ← List.append_assoc]⟩

/-! ## NAME scanning -/

theorem scanName_cons_ne (p : Str) (rest : List Str) (i : Nat) (acc : Str × Option Nat) (hp : p ≠ lit "NAME") :
    scanName (p :: rest) i acc = scanName rest (i + 1) acc := by
  rw [scanName.eq_def]; simp [hp]

theorem scanName_name_cons (nm : Str) (rest : List Str) (i : Nat) (acc : Str × Option Nat) :
    scanName (lit "NAME" :: nm :: rest) i acc = scanName (nm :: rest) (i + 1) (nm, some i) := by
  rw [scanName.eq_def]; simp

theorem scanName_skip (pre rest : List Str) (i : Nat) (acc : Str × Option Nat) (h : lit "NAME" ∉ pre) :
    scanName (pre ++ rest) i acc = scanName rest (i + pre.length) acc := by
  induction pre generalizing i with
  | nil => simp
  | cons p ps ih =>
    have hp : p ≠ lit "NAME" := fun e => h (by simp [e])
    have hr : lit "NAME" ∉ ps := fun e => h (by simp [e])
    rw [List.cons_append, scanName_cons_ne _ _ _ _ hp, ih _ hr]
    congr 1; simp; omega

theorem scanName_no_name (s : List Str) (i : Nat) (acc : Str × Option Nat) (h : lit "NAME" ∉ s) :
    scanName s i acc = some acc := by
  simpa [scanName] using scanName_skip s [] i acc h

theorem nameOf_decomp (pre post : List Str) (nm : Str) (h1 : lit "NAME" ∉ pre) (h2 : lit "NAME" ∉ nm :: post) :
    nameOf (pre ++ lit "NAME" :: nm :: post) = (nm, some pre.length) := by
  rw [nameOf, scanName_skip _ _ _ _ h1, scanName_name_cons, scanName_no_name _ _ _ h2]
  simp

theorem dropPairAt_decomp (pre post : List Str) (a b : Str) :
    dropPairAt (pre ++ a :: b :: post) pre.length = pre ++ post := by
  induction pre with
  | nil => simp [dropPairAt]
  | cons p ps ih => simp [dropPairAt, ih]

theorem ctestParams_decomp (pre post : List Str) (nm : Str) (h1 : lit "NAME" ∉ pre) (h2 : lit "NAME" ∉ nm :: post) :
    ctestParams (pre ++ lit "NAME" :: nm :: post) = pre ++ post := by
  simp [ctestParams, nameOf_decomp pre post nm h1 h2, dropPairAt_decomp]

theorem nameOk_decomp (s : List Str) (h : nameOk s = true) :
    ∃ pre nm post, s = pre ++ lit "NAME" :: nm :: post ∧ lit "NAME" ∉ pre ∧ lit "NAME" ∉ nm :: post := by
  simp only [nameOk, Bool.and_eq_true, beq_iff_eq, bne_iff_ne] at h
  obtain ⟨hc, hl⟩ := h
  have hm : lit "NAME" ∈ s := List.count_pos_iff.mp (by omega)
  obtain ⟨pre, rest, rfl, hpre⟩ := List.eq_append_cons_of_mem hm
  have hrest : lit "NAME" ∉ rest :=
    List.count_eq_zero.mp (by simpa [List.count_append, List.count_eq_zero_of_not_mem hpre] using hc)
  cases rest with
  | nil => simp at hl
  | cons nm post => exact ⟨pre, nm, post, rfl, hpre, hrest⟩

theorem scanName_of_nameOk (s : List Str) (h : nameOk s = true) :
    scanName s 0 ([], none) = some (nameOf s) := by
  obtain ⟨pre, nm, post, rfl, h1, h2⟩ := nameOk_decomp s h
  rw [nameOf_decomp pre post nm h1 h2, scanName_skip _ _ _ _ h1, scanName_name_cons, scanName_no_name _ _ _ h2]
  simp

/-! ## the name tables of well-formedness: `structuralNames`, `closerFor` -/

theorem not_mem_structuralNames (n : Str) : n ∉ structuralNames ↔
    n ≠ lit "function" ∧ n ≠ lit "macro" ∧ n ≠ lit "endfunction" ∧ n ≠ lit "endmacro" ∧
    n ≠ lit "cpp_class" ∧ n ≠ lit "cpp_end_class" ∧ n ≠ lit "cpp_member" ∧ n ≠ lit "cpp_constructor" ∧
    n ≠ lit "ct_add_test" ∧ n ≠ lit "ct_add_section" ∧ n ≠ lit "if" ∧ n ≠ lit "foreach" ∧ n ≠ lit "while" ∧
    n ≠ lit "endif" ∧ n ≠ lit "endforeach" ∧ n ≠ lit "endwhile" := by
  simp [structuralNames]

theorem closerFor_cases (n cl : Str) (h : (closerFor n).contains cl = true) :
    ((n = lit "function" ∨ n = lit "macro") ∧ (cl = lit "endfunction" ∨ cl = lit "endmacro")) ∨
    (n = lit "cpp_class" ∧ cl = lit "cpp_end_class") ∨
    (isLoopName n = true ∧ (cl = lit "endif" ∨ cl = lit "endforeach" ∨ cl = lit "endwhile")) := by
  unfold closerFor at h
  by_cases h1 : (n = lit "function" || n = lit "macro") = true
  · rw [if_pos h1] at h
    exact .inl ⟨by simpa using h1, by simpa using h⟩
  rw [if_neg h1] at h
  by_cases h2 : n = lit "cpp_class"
  · rw [if_pos h2] at h
    exact .inr (.inl ⟨h2, by simpa using h⟩)
  rw [if_neg h2] at h
  by_cases h3 : n = lit "if"
  · rw [if_pos h3] at h
    exact .inr (.inr ⟨by simp [isLoopName, h3], .inl (by simpa using h)⟩)
  rw [if_neg h3] at h
  by_cases h4 : n = lit "foreach"
  · rw [if_pos h4] at h
    exact .inr (.inr ⟨by simp [isLoopName, h4], .inr (.inl (by simpa using h))⟩)
  rw [if_neg h4] at h
  by_cases h5 : n = lit "while"
  · rw [if_pos h5] at h
    exact .inr (.inr ⟨by simp [isLoopName, h5], .inr (.inr (by simpa using h))⟩)
  rw [if_neg h5] at h
  cases h

/-! ## `DirectCpa`: the relational reading of `itemsCpaDirect` (C03)

Only the predicate is in `namespace C03`, where the statements of `C03.lean` look for it; its lemmas are named after
`itemsCpaDirect` and `Item.cpaDirect`, which are not. -/

namespace C03

/-- "a `cmake_parse_arguments` call occurs in these items outside any nested function or macro definition":
the call is one of the items, or sits (recursively) in the body of an `if`/`foreach`/`while` block or of a
`cpp_class` among them.  Bodies of function/macro definitions and of member/test implementations
(`Item.decl`) are not entered. -/
inductive DirectCpa : List Item → Prop
  | here {pre post : List Item} {doc : Option DocC} {call : Call} :
      call.lname = lit "cmake_parse_arguments" → DirectCpa (pre ++ .cmd doc call :: post)
  | inBlock {pre post : List Item} {doc : Option DocC} {o : Call} {body : List Item} {c : Call} :
      (isLoopName o.lname = true ∨ o.lname = lit "cpp_class") → DirectCpa body →
      DirectCpa (pre ++ .block doc o body c :: post)

end C03

open C03

theorem DirectCpa_append_right {a : List Item} (b : List Item) (h : DirectCpa a) : DirectCpa (a ++ b) := by
  cases h with
  | here hc => rw [List.append_assoc, List.cons_append]; exact .here hc
  | inBlock hn hb => rw [List.append_assoc, List.cons_append]; exact .inBlock hn hb

theorem DirectCpa_append_left (a : List Item) {b : List Item} (h : DirectCpa b) : DirectCpa (a ++ b) := by
  cases h with
  | here hc => rw [← List.append_assoc]; exact .here hc
  | inBlock hn hb => rw [← List.append_assoc]; exact .inBlock hn hb

mutual
theorem Item.cpaDirect_sound : (it : Item) → it.cpaDirect = true → DirectCpa [it]
  | .cmd doc call, h => by
    have : call.lname = lit "cmake_parse_arguments" := by simpa [Item.cpaDirect] using h
    exact DirectCpa.here (pre := []) (post := []) this
  | .block doc o body c, h => by
    simp only [Item.cpaDirect, Bool.and_eq_true, Bool.or_eq_true, decide_eq_true_eq] at h
    exact DirectCpa.inBlock (pre := []) (post := []) h.1 (itemsCpaDirect_sound body h.2)
  | .decl .., h => by simp [Item.cpaDirect] at h
  | .dangling _, h => by simp [Item.cpaDirect] at h
theorem itemsCpaDirect_sound : (is : List Item) → itemsCpaDirect is = true → DirectCpa is
  | [], h => by simp [itemsCpaDirect] at h
  | i :: is, h => by
    simp only [itemsCpaDirect, Bool.or_eq_true] at h
    rcases h with h | h
    · exact DirectCpa_append_right is (Item.cpaDirect_sound i h)
    · exact DirectCpa_append_left [i] (itemsCpaDirect_sound is h)
end


/-! ## `Call.Sim`, `DocSim`, `Item.Rel`: trees that agree in what the specification reads

`Call.Sim` and `DocSim` forget the letter case of command names and the layout (C02); the invariance lemmas below are
stated for `Item.Rel Call.Sim D` with the doccomment relation `D` left open, which C04 instantiates with `DocEquiv`. -/

def Call.recase (c : Call) (n' : Str) : Call := { c with name := n' }

/-- `c'` is `c` with the name respelled in another letter case -/
def Call.CaseEq (c c' : Call) : Prop := c' = c.recase c'.name ∧ asciiLower c'.name = asciiLower c.name

/-- same command up to the letter case of the name and up to layout (blanks, line breaks, comments between the
    tokens): the lower-cased names and the parse-tree arguments agree -/
def Call.Sim (c c' : Call) : Prop := asciiLower c.name = asciiLower c'.name ∧ toArgs c.args = toArgs c'.args

/-- same doccomment token (the filler in front of it may differ) -/
def DocSim (d d' : Option DocC) : Prop := d.map DocC.tokenText = d'.map DocC.tokenText

mutual
/-- same tree shape, corresponding commands related by `R`, corresponding doccomments by `D` -/
def Item.Rel (R : Call → Call → Prop) (D : Option DocC → Option DocC → Prop) : Item → Item → Prop
  | .cmd d c, .cmd d' c' => D d d' ∧ R c c'
  | .block d o b c, .block d' o' b' c' => D d d' ∧ R o o' ∧ itemsRel R D b b' ∧ R c c'
  | .decl d dc i b c, .decl d' dc' i' b' c' => D d d' ∧ R dc dc' ∧ R i i' ∧ itemsRel R D b b' ∧ R c c'
  | .dangling d, .dangling d' => D (some d) (some d')
  | _, _ => False
def itemsRel (R : Call → Call → Prop) (D : Option DocC → Option DocC → Prop) : List Item → List Item → Prop
  | [], [] => True
  | i :: is, j :: js => i.Rel R D j ∧ itemsRel R D is js
  | _, _ => False
end

theorem Call.Sim.refl (c : Call) : c.Sim c := ⟨rfl, rfl⟩
theorem Call.Sim.lname {c c' : Call} (h : c.Sim c') : c.lname = c'.lname := h.1
theorem Call.Sim.args {c c' : Call} (h : c.Sim c') : c.toCmd.args = c'.toCmd.args := h.2
theorem Call.Sim.singles {c c' : Call} (h : c.Sim c') : c.singles = c'.singles := by
  simp [Call.singles, Cmd.singles, h.args]
theorem Call.Sim.allTexts {c c' : Call} (h : c.Sim c') : c.allTexts = c'.allTexts := by
  simp [Call.allTexts, h.args]
theorem DocSim.isSome {d d' : Option DocC} (h : DocSim d d') : d.isSome = d'.isSome := by
  simpa using congrArg Option.isSome h
theorem DocSim.docText {d d' : Option DocC} (h : DocSim d d') : docTextOf d = docTextOf d' := by
  cases d <;> cases d' <;> simp_all [DocSim, docTextOf]

section
variable {R R' : Call → Call → Prop} {D D' : Option DocC → Option DocC → Prop}

/-- Induction over two trees of the same shape, for items (`P`) and item lists (`Q`) at once; the shape
    mismatches are ruled out here. -/
theorem Item.Rel.induction {P : Item → Item → Prop} {Q : List Item → List Item → Prop}
    (cmd : ∀ {d d' c c'}, D d d' → R c c' → P (.cmd d c) (.cmd d' c'))
    (block : ∀ {d d' o o' b b' c c'}, D d d' → R o o' → itemsRel R D b b' → Q b b' → R c c' →
      P (.block d o b c) (.block d' o' b' c'))
    (decl : ∀ {d d' dc dc' i i' b b' c c'}, D d d' → R dc dc' → R i i' → itemsRel R D b b' → Q b b' → R c c' →
      P (.decl d dc i b c) (.decl d' dc' i' b' c'))
    (dangling : ∀ {d d'}, D (some d) (some d') → P (.dangling d) (.dangling d'))
    (nil : Q [] []) (cons : ∀ {i j is js}, P i j → Q is js → Q (i :: is) (j :: js)) :
    (∀ a b, a.Rel R D b → P a b) ∧ (∀ a b, itemsRel R D a b → Q a b) :=
  ⟨item, items⟩
where
  item : (a b : Item) → a.Rel R D b → P a b
    | .cmd .., .cmd .., h => cmd h.1 h.2
    | .block _ _ b _, .block _ _ b' _, h => block h.1 h.2.1 h.2.2.1 (items b b' h.2.2.1) h.2.2.2
    | .decl _ _ _ b _, .decl _ _ _ b' _, h =>
      decl h.1 h.2.1 h.2.2.1 h.2.2.2.1 (items b b' h.2.2.2.1) h.2.2.2.2
    | .dangling _, .dangling _, h => dangling h
    | .cmd .., .block .., h | .cmd .., .decl .., h | .cmd .., .dangling _, h
    | .block .., .cmd .., h | .block .., .decl .., h | .block .., .dangling _, h
    | .decl .., .cmd .., h | .decl .., .block .., h | .decl .., .dangling _, h
    | .dangling _, .cmd .., h | .dangling _, .block .., h | .dangling _, .decl .., h => by simp [Item.Rel] at h
  items : (a b : List Item) → itemsRel R D a b → Q a b
    | [], [], _ => nil
    | i :: is, j :: js, h => cons (item i j h.1) (items is js h.2)
    | [], _ :: _, h | _ :: _, [], h => by simp [itemsRel] at h

theorem Item.Rel.mono_both (hR : ∀ c c', R c c' → R' c c') (hD : ∀ d d', D d d' → D' d d') :
    (∀ a b : Item, a.Rel R D b → a.Rel R' D' b) ∧ (∀ a b : List Item, itemsRel R D a b → itemsRel R' D' a b) :=
  Item.Rel.induction
    (cmd := fun hd hc => ⟨hD _ _ hd, hR _ _ hc⟩)
    (block := fun hd ho _ ih hc => ⟨hD _ _ hd, hR _ _ ho, ih, hR _ _ hc⟩)
    (decl := fun hd hdc hi _ ih hc => ⟨hD _ _ hd, hR _ _ hdc, hR _ _ hi, ih, hR _ _ hc⟩)
    (dangling := fun hd => hD _ _ hd) (nil := trivial) (cons := fun h hs => ⟨h, hs⟩)

theorem Item.Rel.mono {R R' : Call → Call → Prop} {D D' : Option DocC → Option DocC → Prop}
    (hR : ∀ c c', R c c' → R' c c') (hD : ∀ d d', D d d' → D' d d') :
    (a b : Item) → a.Rel R D b → a.Rel R' D' b :=
  (Item.Rel.mono_both hR hD).1
theorem itemsRel.mono (hR : ∀ c c', R c c' → R' c c') (hD : ∀ d d', D d d' → D' d d') :
    (a b : List Item) → itemsRel R D a b → itemsRel R' D' a b :=
  (Item.Rel.mono_both hR hD).2

mutual
theorem Item.Rel.refl {R : Call → Call → Prop} {D : Option DocC → Option DocC → Prop}
    (hR : ∀ c, R c c) (hD : ∀ d, D d d) : (a : Item) → a.Rel R D a
  | .cmd d c => ⟨hD d, hR c⟩
  | .block d o bd c => ⟨hD d, hR o, itemsRel.refl hR hD bd, hR c⟩
  | .decl d dc i bd c => ⟨hD d, hR dc, hR i, itemsRel.refl hR hD bd, hR c⟩
  | .dangling d => hD (some d)
theorem itemsRel.refl {R : Call → Call → Prop} {D : Option DocC → Option DocC → Prop}
    (hR : ∀ c, R c c) (hD : ∀ d, D d d) : (a : List Item) → itemsRel R D a a
  | [] => trivial
  | i :: is => ⟨Item.Rel.refl hR hD i, itemsRel.refl hR hD is⟩
end

theorem itemsRel.append {R : Call → Call → Prop} {D : Option DocC → Option DocC → Prop} :
    (a a' b b' : List Item) → itemsRel R D a a' → itemsRel R D b b' → itemsRel R D (a ++ b) (a' ++ b')
  | [], [], _, _, _, h => h
  | _ :: is, _ :: js, b, b', h, h' => ⟨h.1, itemsRel.append is js b b' h.2 h'⟩
  | [], _ :: _, _, _, h, _ | _ :: _, [], _, _, h, _ => by simp [itemsRel] at h

theorem itemsRel.context {R : Call → Call → Prop} {D : Option DocC → Option DocC → Prop}
    (hR : ∀ c, R c c) (hD : ∀ d, D d d) (pre post : List Item) {i j : Item} (h : i.Rel R D j) :
    itemsRel R D (pre ++ [i] ++ post) (pre ++ [j] ++ post) :=
  itemsRel.append _ _ _ _ (itemsRel.append _ _ _ _ (itemsRel.refl hR hD pre) ⟨h, trivial⟩) (itemsRel.refl hR hD post)

/-! ### what the specification reads of a tree

A command is read through `Call.Sim` only; a doccomment through `isSome` and `docTextOf` only (`DocObs`).  Each
invariance is proved for items and item lists at once, under the weakest hypothesis on the doccomment relation
`D` that it needs. -/

/-- the doccomment relation `D` preserves everything the specification reads of a doccomment: whether there is
    one, and its cleaned text -/
def DocObs (D : Option DocC → Option DocC → Prop) : Prop :=
  ∀ d d', D d d' → d.isSome = d'.isSome ∧ docTextOf d = docTextOf d'

theorem DocSim.obs : DocObs DocSim := fun _ _ h => ⟨h.isSome, h.docText⟩

theorem cpaDirect_rel_both :
    (∀ a b : Item, a.Rel Call.Sim D b → a.cpaDirect = b.cpaDirect) ∧
    (∀ a b : List Item, itemsRel Call.Sim D a b → itemsCpaDirect a = itemsCpaDirect b) :=
  Item.Rel.induction
    (cmd := fun _ hc => by simp only [Item.cpaDirect, hc.lname])
    (block := fun _ ho _ ih _ => by simp only [Item.cpaDirect, ho.lname, ih])
    (decl := fun _ _ _ _ _ _ => rfl) (dangling := fun _ => rfl) (nil := rfl)
    (cons := fun h hs => by simp only [itemsCpaDirect, h, hs])

theorem Item.cpaDirect_rel {D : Option DocC → Option DocC → Prop} : (a b : Item) → a.Rel Call.Sim D b → a.cpaDirect = b.cpaDirect :=
  cpaDirect_rel_both.1
theorem itemsCpaDirect_rel : (a b : List Item) → itemsRel Call.Sim D a b → itemsCpaDirect a = itemsCpaDirect b :=
  cpaDirect_rel_both.2

theorem defEntry_rel (cfg : Cfg) (isMacro : Bool) {d d' : Option DocC} {c c' : Call} {b b' : List Item}
    (hd : docTextOf d = docTextOf d') (hc : c.Sim c') (hb : itemsRel Call.Sim D b b') :
    defEntry cfg isMacro d c b = defEntry cfg isMacro d' c' b' := by
  simp [defEntry, hd, hc.singles, itemsCpaDirect_rel b b' hb]

theorem spec_rel_both (hD : DocObs D) (cfg : Cfg) :
    (∀ a b : Item, a.Rel Call.Sim D b → ∀ ctx, a.spec cfg ctx = b.spec cfg ctx) ∧
    (∀ a b : List Item, itemsRel Call.Sim D a b → ∀ ctx, itemsSpec cfg ctx a = itemsSpec cfg ctx b) :=
  Item.Rel.induction
    (cmd := fun hd hc ctx => by
      simp only [Item.spec, hc.lname, hc.singles, hc.allTexts, hc.args, (hD _ _ hd).1, (hD _ _ hd).2])
    (block := fun hd ho hb ih _ ctx => by
      simp only [Item.spec, ho.lname, ho.singles, ho.args, (hD _ _ hd).1, (hD _ _ hd).2,
        defEntry_rel cfg _ (hD _ _ hd).2 ho hb, ih])
    (decl := fun hd hdc hi hb ih _ ctx => by
      simp only [Item.spec, hdc.lname, hdc.singles, hi.lname, hi.singles, (hD _ _ hd).1, (hD _ _ hd).2,
        defEntry_rel cfg _ (rfl : docTextOf none = docTextOf none) hi hb, ih])
    (dangling := fun _ _ => by simp only [Item.spec]) (nil := fun _ => rfl)
    (cons := fun h hs ctx => by simp only [itemsSpec, h, hs])

theorem Item.spec_rel {D : Option DocC → Option DocC → Prop} (hD : DocObs D) (cfg : Cfg) (ctx : ClsCtx) :
    (a b : Item) → a.Rel Call.Sim D b → a.spec cfg ctx = b.spec cfg ctx :=
  fun a b h => (spec_rel_both hD cfg).1 a b h ctx
theorem itemsSpec_rel {D : Option DocC → Option DocC → Prop} (hD : DocObs D) (cfg : Cfg) (ctx : ClsCtx) :
    (a b : List Item) → itemsRel Call.Sim D a b → itemsSpec cfg ctx a = itemsSpec cfg ctx b :=
  fun a b h => (spec_rel_both hD cfg).2 a b h ctx

theorem hasDocumentedClass_rel_both (hD : ∀ d d', D d d' → d.isSome = d'.isSome) :
    (∀ a b : Item, a.Rel Call.Sim D b → a.hasDocumentedClass = b.hasDocumentedClass) ∧
    (∀ a b : List Item, itemsRel Call.Sim D a b → itemsHaveDocumentedClass a = itemsHaveDocumentedClass b) :=
  Item.Rel.induction
    (cmd := fun _ _ => rfl)
    (block := fun hd ho _ ih _ => by simp only [Item.hasDocumentedClass, ho.lname, hD _ _ hd, ih])
    (decl := fun _ _ _ _ ih _ => by simp only [Item.hasDocumentedClass, ih])
    (dangling := fun _ => rfl) (nil := rfl)
    (cons := fun h hs => by simp only [itemsHaveDocumentedClass, h, hs])

theorem Item.hasDocumentedClass_rel {D : Option DocC → Option DocC → Prop} (hD : DocObs D) :
    (a b : Item) → a.Rel Call.Sim D b → a.hasDocumentedClass = b.hasDocumentedClass :=
  (hasDocumentedClass_rel_both fun d d' h => (hD d d' h).1).1
theorem itemsHaveDocumentedClass_rel {D : Option DocC → Option DocC → Prop} (hD : DocObs D) :
    (a b : List Item) → itemsRel Call.Sim D a b → itemsHaveDocumentedClass a = itemsHaveDocumentedClass b :=
  (hasDocumentedClass_rel_both fun d d' h => (hD d d' h).1).2

theorem wf_rel_both :
    (∀ a b : Item, a.Rel Call.Sim D b → ∀ inClass, a.wf inClass = b.wf inClass) ∧
    (∀ a b : List Item, itemsRel Call.Sim D a b → ∀ inClass, itemsWf inClass a = itemsWf inClass b) :=
  Item.Rel.induction
    (cmd := fun _ hc _ => by simp only [Item.wf, hc.lname, hc.singles, hc.allTexts])
    (block := fun _ ho _ ih hc _ => by simp only [Item.wf, ho.lname, ho.singles, hc.lname, ih])
    (decl := fun _ hdc hi _ ih hc _ => by
      simp only [Item.wf, hdc.lname, hdc.singles, hi.lname, hi.singles, hc.lname, ih])
    (dangling := fun _ _ => rfl) (nil := fun _ => rfl)
    (cons := fun h hs _ => by simp only [itemsWf, h, hs])

theorem Item.wf_rel {D : Option DocC → Option DocC → Prop} (inClass : Bool) :
    (a b : Item) → a.Rel Call.Sim D b → a.wf inClass = b.wf inClass :=
  fun a b h => wf_rel_both.1 a b h inClass
theorem itemsWf_rel {D : Option DocC → Option DocC → Prop} (inClass : Bool) :
    (a b : List Item) → itemsRel Call.Sim D a b → itemsWf inClass a = itemsWf inClass b :=
  fun a b h => wf_rel_both.2 a b h inClass

end

theorem Item.cpaDirect_sim : (a b : Item) → a.Rel Call.Sim DocSim b → a.cpaDirect = b.cpaDirect :=
  Item.cpaDirect_rel

theorem Item.spec_sim (cfg : Cfg) (ctx : ClsCtx) :
    (a b : Item) → a.Rel Call.Sim DocSim b → a.spec cfg ctx = b.spec cfg ctx :=
  Item.spec_rel DocSim.obs cfg ctx

theorem Item.wf_sim (inClass : Bool) :
    (a b : Item) → a.Rel Call.Sim DocSim b → a.wf inClass = b.wf inClass :=
  Item.wf_rel inClass

theorem Item.hasDocumentedClass_sim :
    (a b : Item) → a.Rel Call.Sim DocSim b → a.hasDocumentedClass = b.hasDocumentedClass :=
  Item.hasDocumentedClass_rel DocSim.obs

theorem Call.CaseEq.sim {c c' : Call} (h : c.CaseEq c') : c.Sim c' := by
  obtain ⟨h1, h2⟩ := h
  refine ⟨h2.symm, ?_⟩
  rw [h1]; rfl

/-! ## C08: the embedding order and `Cfg.allOff` -/

/-- all ten `include_undocumented_*` flags off; trigger string and strip patterns unchanged -/
def Cfg.allOff (cfg : Cfg) : Cfg :=
  { cfg with inclFunction := false, inclMacro := false, inclCppClass := false, inclCppAttr := false,
             inclCppConstructor := false, inclCppMember := false, inclCtAddTest := false, inclAddTest := false,
             inclCtAddSection := false, inclOption := false }

/-- all ten flags on (the default settings for these options); trigger string and strip patterns unchanged -/
def Cfg.allOn (cfg : Cfg) : Cfg :=
  { cfg with inclFunction := true, inclMacro := true, inclCppClass := true, inclCppAttr := true,
             inclCppConstructor := true, inclCppMember := true, inclCtAddTest := true, inclAddTest := true,
             inclCtAddSection := true, inclOption := true }

theorem Cfg.allOn_allOff (cfg : Cfg) : cfg.allOn.allOff = cfg.allOff := rfl
theorem Cfg.allOff_allOff (cfg : Cfg) : cfg.allOff.allOff = cfg.allOff := rfl

/-- `e'` is `e`, except that a class entry may list more inner classes, constructors, methods and attributes
    (the ones of `e` in the same relative order) -/
def Entry.embeds : Entry → Entry → Prop
  | .cls n d s i c m a, .cls n' d' s' i' c' m' a' =>
    n = n' ∧ d = d' ∧ s = s' ∧ i.Sublist i' ∧ c.Sublist c' ∧ m.Sublist m' ∧ a.Sublist a'
  | e, e' => e = e'

theorem Entry.embeds_refl (e : Entry) : e.embeds e := by
  cases e <;> simp [Entry.embeds]

/-- the first list is obtained from the second by deleting entries and shrinking class entries (`Entry.embeds`) -/
inductive TopEmbeds : List Entry → List Entry → Prop
  | nil : TopEmbeds [] []
  | skip {l l' : List Entry} (e : Entry) : TopEmbeds l l' → TopEmbeds l (e :: l')
  | keep {l l' : List Entry} {e e' : Entry} : e.embeds e' → TopEmbeds l l' → TopEmbeds (e :: l) (e' :: l')

theorem TopEmbeds.refl : (l : List Entry) → TopEmbeds l l
  | [] => .nil
  | e :: l => .keep e.embeds_refl (TopEmbeds.refl l)

theorem TopEmbeds.nil_left : (l : List Entry) → TopEmbeds [] l
  | [] => .nil
  | e :: l => .skip e (TopEmbeds.nil_left l)

theorem TopEmbeds.append {a a' b b' : List Entry} (h1 : TopEmbeds a a') (h2 : TopEmbeds b b') :
    TopEmbeds (a ++ b) (a' ++ b') := by
  induction h1 with
  | nil => simpa using h2
  | skip e _ ih => exact .skip e ih
  | keep he _ ih => exact .keep he ih

theorem TopEmbeds.length_le {a b : List Entry} (h : TopEmbeds a b) : a.length ≤ b.length := by
  induction h with
  | nil => simp
  | skip e _ ih => simp; omega
  | keep _ _ ih => simp; omega

/-- componentwise embedding of contributions -/
structure ContribEmbeds (a b : Contrib) : Prop where
  top : TopEmbeds a.top b.top
  inner : a.inner.Sublist b.inner
  ctors : a.ctors.Sublist b.ctors
  members : a.members.Sublist b.members
  attrs : a.attrs.Sublist b.attrs

theorem ContribEmbeds.refl (a : Contrib) : ContribEmbeds a a :=
  ⟨TopEmbeds.refl _, List.Sublist.refl _, List.Sublist.refl _, List.Sublist.refl _, List.Sublist.refl _⟩

theorem ContribEmbeds.of_eq {a b : Contrib} (h : a = b) : ContribEmbeds a b := h ▸ ContribEmbeds.refl a

theorem ContribEmbeds.of_top {t : List Entry} {b : Contrib} (h : TopEmbeds t b.top) : ContribEmbeds { top := t } b :=
  ⟨h, List.nil_sublist _, List.nil_sublist _, List.nil_sublist _, List.nil_sublist _⟩

theorem ContribEmbeds.nil_left (b : Contrib) : ContribEmbeds {} b := .of_top (TopEmbeds.nil_left _)

theorem ContribEmbeds.append {a a' b b' : Contrib} (h1 : ContribEmbeds a a') (h2 : ContribEmbeds b b') :
    ContribEmbeds (a ++ b) (a' ++ b') :=
  ⟨h1.top.append h2.top, h1.inner.append h2.inner, h1.ctors.append h2.ctors, h1.members.append h2.members,
   h1.attrs.append h2.attrs⟩

/-! ### what `allOff` does -/

theorem defEntry_allOff (cfg : Cfg) (isMacro : Bool) (doc : Option DocC) (c : Call) (body : List Item) :
    defEntry cfg.allOff isMacro doc c body = defEntry cfg isMacro doc c body := rfl

theorem methodOf_allOff (cfg : Cfg) (doc : Option DocC) (d impl : Call) (isCtor : Bool) :
    methodOf cfg.allOff doc d impl isCtor = methodOf cfg doc d impl isCtor := rfl

theorem asDefinition_allOff (cfg : Cfg) (impl : Call) (body : List Item) : asDefinition cfg.allOff impl body = {} := by
  simp [asDefinition, Cfg.allOff]

theorem spec_cmd_allOff (cfg : Cfg) (ctx : ClsCtx) (doc : Option DocC) (call : Call) :
    (Item.cmd doc call).spec cfg.allOff ctx = if doc.isSome then (Item.cmd doc call).spec cfg ctx else {} := by
  cases doc
  · simp [Item.spec, Cfg.allOff]
  · simp [Item.spec, Cfg.allOff]

theorem ContribEmbeds.ite {c₁ c₂ : Prop} [Decidable c₁] [Decidable c₂] {a b : Contrib} (h : c₁ → c₂) :
    ContribEmbeds (if c₁ then a else {}) (if c₂ then a else b) := by
  by_cases h1 : c₁
  · rw [if_pos h1, if_pos (h h1)]
    exact .refl a
  · rw [if_neg h1]
    exact .nil_left _

theorem blockName_cases (n : Str) :
    (∃ isMacro : Bool, n = if isMacro then lit "macro" else lit "function") ∨ n = lit "cpp_class" ∨
    (n ≠ lit "function" ∧ n ≠ lit "macro" ∧ n ≠ lit "cpp_class") := by
  by_cases h1 : n = lit "function"
  · exact .inl ⟨false, h1⟩
  by_cases h2 : n = lit "macro"
  · exact .inl ⟨true, h2⟩
  by_cases h3 : n = lit "cpp_class"
  · exact .inr (.inl h3)
  · exact .inr (.inr ⟨h1, h2, h3⟩)

theorem declName_cases (n : Str) :
    (∃ isSection : Bool, n = if isSection then lit "ct_add_section" else lit "ct_add_test") ∨
    (n ≠ lit "ct_add_test" ∧ n ≠ lit "ct_add_section") := by
  by_cases h1 : n = lit "ct_add_test"
  · exact .inl ⟨false, h1⟩
  by_cases h2 : n = lit "ct_add_section"
  · exact .inl ⟨true, h2⟩
  · exact .inr ⟨h1, h2⟩

mutual
/-- What the doccomment-carrying commands contribute (`cfg.allOff`) embeds into what the item contributes under
    `cfg`.  The contexts may differ as long as `ctx₁ = .shown → ctx₂ = .shown`: an undocumented class is hidden
    under `allOff` and may be shown under `cfg`.  Per kind both sides are the same contribution under two guards,
    and with the flags off the guard says that there is a doccomment (`ContribEmbeds.ite`). -/
theorem Item.spec_embed (cfg : Cfg) : (it : Item) → ∀ ctx₁ ctx₂ : ClsCtx, (ctx₁ = .shown → ctx₂ = .shown) →
    ContribEmbeds (it.spec cfg.allOff ctx₁) (it.spec cfg ctx₂)
  | .cmd doc call, ctx₁, ctx₂, hctx => by
    rw [spec_cmd_allOff]
    split
    · -- the same command under `cfg` in both contexts; only `cpp_attr` reads the context
      by_cases h4 : call.lname = lit "cpp_attr"
      · rw [spec_cmd_attr _ ctx₁ _ _ h4, spec_cmd_attr _ ctx₂ _ _ h4]
        exact .ite fun h => ⟨hctx h.1, h.2⟩
      · exact .of_eq (by simp [Item.spec, h4])
    · exact .nil_left _
  | .block doc o body c, ctx₁, ctx₂, hctx => by
    have ih := itemsSpec_embed cfg body ctx₁ ctx₂ hctx
    rcases blockName_cases o.lname with ⟨isMacro, hn⟩ | hn | ⟨h1, h2, h3⟩
    · rw [spec_block_def _ ctx₁ doc o body c isMacro hn, spec_block_def _ ctx₂ doc o body c isMacro hn]
      refine .append (.ite ?_) ih
      simpa [Cfg.allOff] using .inl
    · rw [spec_block_class _ ctx₁ doc o body c hn, spec_block_class _ ctx₂ doc o body c hn]
      cases doc with
      | some d =>
        -- shown on both sides: the class entries embed member list by member list
        have ih := itemsSpec_embed cfg body .shown .shown id
        refine ⟨.keep ⟨rfl, rfl, rfl, ih.inner, ih.ctors, ih.members, ih.attrs⟩ ih.top, ?_,
          .refl _, .refl _, .refl _⟩
        by_cases hs : ctx₁ = .shown
        · simp [hs, hctx hs]
        · simp [hs]
      | none =>
        -- hidden under `allOff`; under `cfg` its entry, if it has one, is skipped
        cases hi : cfg.inclCppClass with
        | true =>
          exact .of_top (.skip _ (itemsSpec_embed cfg body .hidden .shown (fun h => by cases h)).top)
        | false =>
          exact .of_top (itemsSpec_embed cfg body .hidden .hidden id).top
    · rw [spec_block_other _ ctx₁ doc o body c h1 h2 h3, spec_block_other _ ctx₂ doc o body c h1 h2 h3]
      exact .append (.refl _) ih
  | .decl doc d impl body c, ctx₁, ctx₂, hctx => by
    have ih := itemsSpec_embed cfg body ctx₁ ctx₂ hctx
    rcases declName_cases d.lname with ⟨isSection, hn⟩ | ⟨h1, h2⟩
    · rw [spec_decl_test _ ctx₁ doc d impl body c isSection hn, spec_decl_test _ ctx₂ doc d impl body c isSection hn,
        asDefinition_allOff]
      refine .append (.ite ?_) ih
      simpa [Cfg.allOff] using .inl
    · rw [spec_decl_memberlike _ ctx₁ doc d impl body c h1 h2, spec_decl_memberlike _ ctx₂ doc d impl body c h1 h2,
        asDefinition_allOff]
      refine .append (.ite ?_) ih
      simpa [Cfg.allOff] using fun hs hd => ⟨hctx hs, .inl hd⟩
  | .dangling _, _, _, _ => by
    rw [spec_dangling, spec_dangling]
    exact .refl _
theorem itemsSpec_embed (cfg : Cfg) : (items : List Item) → ∀ ctx₁ ctx₂ : ClsCtx, (ctx₁ = .shown → ctx₂ = .shown) →
    ContribEmbeds (itemsSpec cfg.allOff ctx₁ items) (itemsSpec cfg ctx₂ items)
  | [], _, _, _ => by
    rw [itemsSpec_nil, itemsSpec_nil]
    exact .refl _
  | i :: is, ctx₁, ctx₂, hctx => by
    rw [itemsSpec_cons, itemsSpec_cons]
    exact .append (Item.spec_embed cfg i ctx₁ ctx₂ hctx) (itemsSpec_embed cfg is ctx₁ ctx₂ hctx)
end

/-! ## what is handed to a class: nothing outside a shown one; by a single command, attributes only -/

/-- nothing is handed to a class -/
def Contrib.noClassPart (a : Contrib) : Prop := a.inner = [] ∧ a.ctors = [] ∧ a.members = [] ∧ a.attrs = []

/-! `noClassPart` distributes over what `Item.spec` is built from.  With `ctx ≠ .shown` every guard
    `ctx = .shown` is false, and `simp` is left with contributions of the form `{ top := _ }`. -/

@[simp] theorem Contrib.noClassPart_top (t : List Entry) : ({ top := t } : Contrib).noClassPart := ⟨rfl, rfl, rfl, rfl⟩

@[simp] theorem Contrib.noClassPart_append {a b : Contrib} : (a ++ b).noClassPart ↔ a.noClassPart ∧ b.noClassPart := by
  simp only [Contrib.noClassPart, Contrib.append_inner, Contrib.append_ctors, Contrib.append_members,
    Contrib.append_attrs, List.append_eq_nil_iff]
  grind

theorem Contrib.noClassPart.append {a b : Contrib} (h1 : a.noClassPart) (h2 : b.noClassPart) : (a ++ b).noClassPart :=
  Contrib.noClassPart_append.2 ⟨h1, h2⟩

@[simp] theorem Contrib.noClassPart_ite {c : Prop} [Decidable c] {a b : Contrib} :
    (if c then a else b).noClassPart ↔ (c → a.noClassPart) ∧ (¬c → b.noClassPart) := by
  split <;> simp [*]

mutual
theorem Item.spec_noClassPart (cfg : Cfg) (ctx : ClsCtx) (hctx : ctx ≠ .shown) : (it : Item) → (it.spec cfg ctx).noClassPart
  | .cmd doc call => by simp [Item.spec, hctx]
  | .block doc o body c => by simp [Item.spec, hctx, itemsSpec_noClassPart cfg ctx hctx body]
  | .decl doc d impl body c => by simp [Item.spec, hctx, itemsSpec_noClassPart cfg ctx hctx body]
  | .dangling _ => by simp [Item.spec]
theorem itemsSpec_noClassPart (cfg : Cfg) (ctx : ClsCtx) (hctx : ctx ≠ .shown) :
    (items : List Item) → (itemsSpec cfg ctx items).noClassPart
  | [] => by simp [itemsSpec]
  | i :: is => by simp [itemsSpec, Item.spec_noClassPart cfg ctx hctx i, itemsSpec_noClassPart cfg ctx hctx is]
end

/-- a single command hands a class nothing but attributes: each branch of `Item.spec` is `{}`, `{ top := _ }` or
    `{ attrs := _ }` -/
theorem spec_cmd_no_members (cfg : Cfg) (ctx : ClsCtx) (doc : Option DocC) (call : Call) :
    ((Item.cmd doc call).spec cfg ctx).inner = [] ∧ ((Item.cmd doc call).spec cfg ctx).ctors = [] ∧
    ((Item.cmd doc call).spec cfg ctx).members = [] := by
  simp only [Item.spec, apply_ite Contrib.inner, apply_ite Contrib.ctors, apply_ite Contrib.members, ite_self, and_self]

end Cminx
