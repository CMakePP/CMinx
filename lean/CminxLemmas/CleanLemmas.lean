import CminxModel.Clean
import CminxModel.Source
import CminxLemmas.StrLemmas
import CminxLemmas.LexLemmas
/-!
What `clean_doc_lines` (`CminxModel/Clean.lean`) does to one line (`cleanLine`), to a list of lines
(`cleanDocLines`) and to the token text of a doccomment (`DocC`, `CminxModel/Source.lean`).
The predicates in which property C01 is stated come first, since the lemmas speak of them.
-/
namespace Cminx

namespace C01

/-- the block's indentation is any run of spaces and tabs -/
def IndOk (ind : Str) : Prop := ∀ c ∈ ind, c = ' ' ∨ c = '\t'

def NoNl (l : Str) : Prop := '\n' ∉ l

instance (ind : Str) : Decidable (IndOk ind) := inferInstanceAs (Decidable (∀ c ∈ ind, _))
instance (l : Str) : Decidable (NoNl l) := inferInstanceAs (Decidable (_ ∉ _))

/-- the line is non-empty and its first character is an ASCII letter -/
def StartsAlpha (l : Str) : Prop := ∃ c cs, l = c :: cs ∧ c.isAlpha = true

instance : (l : Str) → Decidable (StartsAlpha l)
  | [] => isFalse (fun ⟨_, _, h, _⟩ => nomatch h)
  | c :: cs => decidable_of_iff (c.isAlpha = true)
      ⟨fun h => ⟨c, cs, rfl, h⟩, fun ⟨_, _, h, ha⟩ => (List.cons.inj h).1 ▸ ha⟩

theorem IndOk.allWs {b : Str} (h : IndOk b) : ∀ c ∈ b, pyIsSpace c = true :=
  fun c hc => pyIsSpace_blank (h c hc)

theorem IndOk.noNl {b : Str} (h : IndOk b) : '\n' ∉ b := by
  intro hm
  rcases h _ hm with e | e <;> exact absurd e (by decide)

end C01

open C01

/-! ## `mapLast`, `numSpaces`, `dropOneSpace` -/

theorem mapLast_append_singleton (f : Str → Str) (ls : List Str) (l : Str) :
    mapLast f (ls ++ [l]) = ls ++ [f l] := by
  induction ls with
  | nil => rfl
  | cons a as ih =>
    cases as with
    | nil => rfl
    | cons b bs => simpa [mapLast] using ih

theorem numSpaces_append_of_all {p : Str} (hp : ∀ c ∈ p, pyIsSpace c = true) (l : Str) :
    numSpaces (p ++ l) = p.length + numSpaces l := by
  have : ∀ c ∈ p, (c != '#') = true := by
    intro c hc
    have : c ≠ '#' := by rintro rfl; exact absurd (hp _ hc) (by decide)
    simpa using this
  simp [numSpaces, List.takeWhile_append_of_pos this]

theorem dropOneSpace_of_head {s : Str} (h : s.head? ≠ some ' ') : dropOneSpace s = s := by
  unfold dropOneSpace
  split
  · exact absurd rfl h
  · rfl

theorem mem_of_mem_dropOneSpace {c : Char} {s : Str} (h : c ∈ dropOneSpace s) : c ∈ s := by
  unfold dropOneSpace at h
  split at h
  · exact List.mem_cons_of_mem _ h
  · exact h

theorem dropOneSpace_append {x : Str} (hx : x.head? ≠ some ' ') (s : Str) :
    dropOneSpace (s ++ x) = dropOneSpace s ++ x := by
  cases s with
  | nil => exact dropOneSpace_of_head hx
  | cons c t =>
    by_cases hc : c = ' '
    · rw [hc]; rfl
    · have h : ∀ u, (c :: u).head? ≠ some ' ' := fun u => by simpa using hc
      rw [List.cons_append, dropOneSpace_of_head (h _), dropOneSpace_of_head (h _)]
      rfl

/-! ## `cleanLine`: what the width does, and what is left at width 0 -/

theorem cleanLine_zero (l : Str) : cleanLine 0 l = dropOneSpace (lstripSet ['#', '[', ']'] l) := rfl

theorem cleanLine_shift {p : Str} (hp : ∀ c ∈ p, pyIsSpace c = true) (n : Nat) (l : Str) :
    cleanLine (p.length + n) (p ++ l) = cleanLine n l := by
  unfold cleanLine
  rw [List.take_length_add_append, List.drop_length_add_append, lstripWs_append_of_all hp]

theorem cleanLine_of_flush {l : Str} (h : ∀ c, l.head? = some c → pyIsSpace c = false) (n : Nat) :
    cleanLine n l = cleanLine 0 l := by
  have hd : ∀ k, lstripWs (l.take k) ++ l.drop k = l := by
    intro k
    cases l with
    | nil => simp [lstripWs]
    | cons c cs =>
      cases k with
      | zero => rfl
      | succ k => simp [lstripWs_cons_of_not (h c rfl)]
  unfold cleanLine
  rw [hd n, hd 0]

theorem mem_of_mem_cleanLine_zero {c : Char} {l : Str} (h : c ∈ cleanLine 0 l) : c ∈ l :=
  (List.dropWhile_sublist _).subset (mem_of_mem_dropOneSpace h)

theorem cleanLine_ind {ind : Str} (h : IndOk ind) (x : Str) : cleanLine ind.length (ind ++ x) = cleanLine 0 x :=
  cleanLine_shift h.allWs 0 x

theorem cleanLine_zero_blanks_append {sp x : Str} (hsp : IndOk sp)
    (hx : ∀ c, x.head? = some c → c ∉ ['#', '[', ']', ' ']) :
    cleanLine 0 (sp ++ x) = dropOneSpace sp ++ x := by
  have hS : ∀ c, (sp ++ x).head? = some c → c ∉ ['#', '[', ']'] := by
    intro c hc
    cases sp with
    | nil => exact fun hm => hx c hc (List.mem_append_left [' '] hm)
    | cons b t =>
      cases hc
      rcases hsp c (by simp) with rfl | rfl <;> decide
  rw [cleanLine_zero, lstripSet_of_head hS, dropOneSpace_append (fun h => hx ' ' h (by simp))]

/-! ## `cleanLine` on the lines of a doccomment -/

/-- a canonical body line (`ind`, `#`, one space, text — or the bare leader for an empty line); `e` is the
`'\r'` of a CRLF line ending, if any -/
theorem cleanLine_body {ind : Str} (h : IndOk ind) (t : Str) {e : Str} (he : e = [] ∨ e = ['\r']) :
    cleanLine ind.length ((ind ++ '#' :: (if t.isEmpty then [] else ' ' :: t)) ++ e) = t ++ e := by
  rw [List.append_assoc, cleanLine_ind h, cleanLine_zero]
  cases t with
  | nil => rcases he with rfl | rfl <;> rfl
  | cons c cs =>
    show dropOneSpace (lstripSet _ (['#'] ++ ' ' :: (c :: cs ++ e))) = _
    rw [lstripSet_append_of_all (by simp), lstripSet_cons_of_not_mem (by decide)]
    rfl

theorem cleanLine_open (n : Nat) (suffix : Str) :
    cleanLine n (docStart ++ suffix) = cleanLine 0 suffix := by
  rw [docStart_eq, cleanLine_of_flush (by simp; decide), cleanLine_zero, cleanLine_zero,
    lstripSet_append_of_all (by simp)]

theorem cleanLine_open_nil (n : Nat) : cleanLine n docStart = [] := by
  simpa [cleanLine_zero, lstripSet, dropOneSpace] using cleanLine_open n []

theorem cleanLine_open_cr (n : Nat) : cleanLine n (docStart ++ ['\r']) = ['\r'] :=
  cleanLine_open n ['\r']

theorem cleanLine_close {ind : Str} (h : IndOk ind) : cleanLine ind.length (ind ++ docEnd) = [] := by
  rw [cleanLine_ind h, docEnd_eq]; rfl

theorem cleanLine_zero_alpha {t : Str} (h : StartsAlpha t) : cleanLine 0 t = t := by
  obtain ⟨c, cs, rfl, hc⟩ := h
  refine cleanLine_zero_blanks_append (sp := []) (fun _ h => nomatch h) ?_
  intro a ha hm
  cases ha
  simp only [List.mem_cons, List.not_mem_nil, or_false] at hm
  rcases hm with rfl | rfl | rfl | rfl <;> exact absurd hc (by decide)

/-! ## `cleanDocLines` -/

/-- `if cleaned_doc.startswith("\n"): cleaned_doc = cleaned_doc[1:]` -/
def stripLeadNl : Str → Str
  | '\n' :: t => t
  | d => d

theorem stripLeadNl_nl (t : Str) : stripLeadNl ('\n' :: t) = t := rfl

theorem stripLeadNl_of_head (c : Char) (t : Str) (h : c ≠ '\n') : stripLeadNl (c :: t) = c :: t := by
  unfold stripLeadNl
  split
  · rename_i heq; exact absurd (List.cons.inj heq).1 h
  · rfl

theorem stripLeadNl_joinNl_cons {f : Str} (hne : f ≠ []) (h : '\n' ∉ f) (ls : List Str) :
    stripLeadNl (joinNl (f :: ls)) = joinNl (f :: ls) := by
  obtain ⟨c, cs, rfl⟩ := List.exists_cons_of_ne_nil hne
  have : joinNl ((c :: cs) :: ls) = c :: joinNl (cs :: ls) := by cases ls <;> rfl
  rw [this]
  exact stripLeadNl_of_head c _ (fun e => h (by simp [e]))

theorem stripLeadNl_joinNl_nil_cons {ls : List Str} (hne : ls ≠ []) :
    stripLeadNl (joinNl ([] :: ls)) = joinNl ls := by
  rw [joinNl_cons _ hne]
  rfl

/-- The width every line is shifted by is taken from the last line: in the token text of a doccomment that is the line
of the closing `#]]`, so the width is the indentation of the block (`cleanDocLines_frame`). -/
theorem cleanDocLines_concat (init : List Str) (last : Str) :
    cleanDocLines (init ++ [last]) =
      stripLeadNl (joinNl (init.map (cleanLine (numSpaces last)) ++
        [rstripSet ['#', ']'] (cleanLine (numSpaces last) last)])) := by
  have h : cleanDocLines (init ++ [last]) = stripLeadNl (joinNl (mapLast (rstripSet ['#', ']'])
      ((init ++ [last]).map (cleanLine (numSpaces (lastD (init ++ [last]))))))) := rfl
  rw [h, lastD_append_singleton, List.map_append, List.map_singleton, mapLast_append_singleton]

theorem cleanDocLines_frame {ind : Str} (h : IndOk ind) (init : List Str) :
    cleanDocLines (init ++ [ind ++ docEnd]) =
      stripLeadNl (joinNl (init.map (cleanLine ind.length) ++ [[]])) := by
  have hn : numSpaces (ind ++ docEnd) = ind.length := by
    rw [numSpaces_append_of_all h.allWs, docEnd_eq]; rfl
  rw [cleanDocLines_concat, hn, cleanLine_close h]; rfl

/-! ## the token text of a `DocC`, line by line -/

/-- what precedes the `'\n'` of a line ending -/
def eolCr (crlf : Bool) : Str := if crlf then ['\r'] else []

theorem eolStr_eq (crlf : Bool) : eolStr crlf = eolCr crlf ++ ['\n'] := by
  cases crlf <;> rfl

theorem eolCr_noNl (crlf : Bool) : '\n' ∉ eolCr crlf := by cases crlf <;> simp [eolCr]

section DocC
variable (d : DocC)

theorem DocC.tokenText_eq :
    d.tokenText = (docStart ++ d.openSuffix ++ eolCr d.crlf) ++ '\n' ::
      (((d.lines.map (fun t => d.bodyLine t ++ eolCr d.crlf)).map (· ++ ['\n'])).flatten
        ++ (d.ind ++ docEnd)) := by
  simp [DocC.tokenText, eolStr_eq, List.map_map, Function.comp_def]

theorem DocC.bodyLine_noNl (t : Str) (hi : '\n' ∉ d.ind) (ht : '\n' ∉ t) : '\n' ∉ d.bodyLine t := by
  unfold DocC.bodyLine
  split
  · split <;> simp [hi, ht]
  · exact ht

theorem DocC.splitNl_tokenText (hs : '\n' ∉ d.openSuffix) (hn : ∀ t ∈ d.lines, '\n' ∉ t) (hi : '\n' ∉ d.ind) :
    splitNl d.tokenText =
      (docStart ++ d.openSuffix ++ eolCr d.crlf) ::
        (d.lines.map (fun t => d.bodyLine t ++ eolCr d.crlf) ++ [d.ind ++ docEnd]) := by
  have he := eolCr_noNl d.crlf
  have h1 : '\n' ∉ docStart ++ d.openSuffix ++ eolCr d.crlf := by
    rw [docStart_eq]; simp [hs, he]
  have h2 : '\n' ∉ d.ind ++ docEnd := by rw [docEnd_eq]; simp [hi]
  rw [DocC.tokenText_eq, splitNl_noNl_append_nl h1, splitNl_flatten_map_nl, splitNl_of_noNl h2]
  intro l hl
  obtain ⟨t, ht, rfl⟩ := List.mem_map.mp hl
  simp [d.bodyLine_noNl t hi (hn t ht), he]

/-! ## cleaning the token text of a `DocC` -/

/-- Any doccomment (leaders or not, either line ending, any opening-line suffix).  The two shapes below only say
what `cleanLine` does to their body lines. -/
theorem cleanDoc_tokenText (hi : IndOk d.ind) (hs : '\n' ∉ d.openSuffix) (hn : ∀ t ∈ d.lines, '\n' ∉ t) :
    cleanDoc d.tokenText =
      stripLeadNl (joinNl (cleanLine 0 (d.openSuffix ++ eolCr d.crlf) ::
        d.lines.map (fun t => cleanLine d.ind.length (d.bodyLine t ++ eolCr d.crlf)) ++ [[]])) := by
  unfold cleanDoc
  rw [d.splitNl_tokenText hs hn hi.noNl, ← List.cons_append, cleanDocLines_frame hi, List.map_cons, List.map_map,
    List.append_assoc, cleanLine_open]
  rfl

theorem cleanDoc_tokenText_leader (hl : d.leader = true) (hi : IndOk d.ind) (hs : '\n' ∉ d.openSuffix)
    (hn : ∀ t ∈ d.lines, '\n' ∉ t) :
    cleanDoc d.tokenText =
      stripLeadNl (joinNl (cleanLine 0 (d.openSuffix ++ eolCr d.crlf) ::
        d.lines.map (fun t => t ++ eolCr d.crlf) ++ [[]])) := by
  have he : eolCr d.crlf = [] ∨ eolCr d.crlf = ['\r'] := by cases d.crlf <;> simp [eolCr]
  rw [cleanDoc_tokenText d hi hs hn]
  simp only [DocC.bodyLine, hl, if_true, cleanLine_body hi _ he]

theorem cleanDoc_tokenText_leaderless (hl : d.leader = false) (hi : d.ind = [])
    (hc : d.crlf = false) (hs : '\n' ∉ d.openSuffix) (hn : ∀ t ∈ d.lines, '\n' ∉ t)
    (ha : ∀ t ∈ d.lines, StartsAlpha t) :
    cleanDoc d.tokenText = stripLeadNl (joinNl (cleanLine 0 d.openSuffix :: d.lines ++ [[]])) := by
  rw [cleanDoc_tokenText d (by simp [hi, IndOk]) hs hn]
  simp only [DocC.bodyLine, hl, hc, hi, eolCr, List.append_nil, List.length_nil, Bool.false_eq_true, if_false]
  rw [List.map_congr_left (fun t ht => cleanLine_zero_alpha (ha t ht)), List.map_id']

end DocC

/-! ## the module doccomment -/

theorem moduleNameDoc_of_cleanDoc {text f : Str} {ls : List Str} (h : cleanDoc text = joinNl (f :: ls))
    (hf : '\n' ∉ f) (hne : ls ≠ []) (hls : ∀ l ∈ ls, '\n' ∉ l) :
    moduleNameDoc text = (stripWs (replaceAll (lit "@module") [] f), joinNl ls) := by
  unfold moduleNameDoc
  rw [h, joinNl_cons _ hne, splitNl_noNl_append_nl hf, splitNl_joinNl hne hls]

/-- `hf`: the opening line leaves a non-empty first cleaned line (as `@module …` does), so no leading newline is
removed -/
theorem cleanDoc_tokenText_first (d : DocC) (hl : d.leader = true) (hi : IndOk d.ind) (hs : '\n' ∉ d.openSuffix)
    (hn : ∀ t ∈ d.lines, '\n' ∉ t) (hf : cleanLine 0 (d.openSuffix ++ eolCr d.crlf) ≠ []) :
    cleanDoc d.tokenText =
        joinNl (cleanLine 0 (d.openSuffix ++ eolCr d.crlf) :: d.lines.map (fun t => t ++ eolCr d.crlf) ++ [[]]) ∧
      moduleNameDoc d.tokenText =
        (stripWs (replaceAll (lit "@module") [] (cleanLine 0 (d.openSuffix ++ eolCr d.crlf))),
          joinNl (d.lines.map (fun t => t ++ eolCr d.crlf) ++ [[]])) := by
  have he := eolCr_noNl d.crlf
  have hfn : '\n' ∉ cleanLine 0 (d.openSuffix ++ eolCr d.crlf) :=
    fun h => (List.mem_append.1 (mem_of_mem_cleanLine_zero h)).elim hs he
  have hclean := (cleanDoc_tokenText_leader d hl hi hs hn).trans (stripLeadNl_joinNl_cons hf hfn _)
  refine ⟨hclean, moduleNameDoc_of_cleanDoc hclean hfn (by simp) (List.forall_mem_append.2 ⟨?_, by simp⟩)⟩
  simpa using fun t ht => ⟨hn t ht, he⟩

/-- module doccomment `#[[[<blanks>@module<rest>`, either line ending -/
theorem moduleNameDoc_tokenText (d : DocC) (sp rest : Str) (hl : d.leader = true)
    (hi : IndOk d.ind) (ho : d.openSuffix = sp ++ lit "@module" ++ rest)
    (hsp : IndOk sp) (hr : '\n' ∉ rest) (hn : ∀ t ∈ d.lines, '\n' ∉ t) :
    cleanDoc d.tokenText =
        joinNl ((dropOneSpace sp ++ (lit "@module" ++ (rest ++ eolCr d.crlf))) ::
          d.lines.map (fun t => t ++ eolCr d.crlf) ++ [[]]) ∧
      moduleNameDoc d.tokenText =
        (stripWs (replaceAll (lit "@module") [] (rest ++ eolCr d.crlf)),
          joinNl (d.lines.map (fun t => t ++ eolCr d.crlf) ++ [[]])) := by
  -- all that is used of `@module…`: it starts with `'@'`
  have hat : ∀ y c, (lit "@module" ++ y).head? = some c → c = '@' := by
    rw [litModule_eq]
    exact fun y c hc => (Option.some.inj hc).symm
  have hfirst : cleanLine 0 (d.openSuffix ++ eolCr d.crlf) =
      dropOneSpace sp ++ (lit "@module" ++ (rest ++ eolCr d.crlf)) := by
    rw [ho, List.append_assoc, List.append_assoc]
    exact cleanLine_zero_blanks_append hsp (fun c hc => by rw [hat _ c hc]; decide)
  have hm : '\n' ∉ lit "@module" := not_mem_lit_of (by decide)
  have hs : '\n' ∉ d.openSuffix := by
    rw [ho]
    simp [hsp.noNl, hm, hr]
  have hsp' : IndOk (dropOneSpace sp) := fun c hc => hsp c (mem_of_mem_dropOneSpace hc)
  have h := cleanDoc_tokenText_first d hl hi hs hn (by rw [hfirst]; simp [litModule_ne_nil])
  rw [hfirst] at h
  refine ⟨h.1, h.2.trans ?_⟩
  rw [stripWs_replaceAll_ws_append litModule_ne_nil (fun c hc => by rw [hat [] c (by rwa [List.append_nil])]; decide)
    hsp'.allWs]

end Cminx
