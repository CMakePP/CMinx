import CminxModel.Glob
import CminxLemmas.StrLemmas
import CminxLemmas.Except
/-!
Lemmas about `CminxModel/Glob.lean`, in the order of the model.
A path string is read at two kinds of position: at the beginning of a component (`joinWith ['/'] xs`) and behind one
(`rest xs`).  What follows a segment's expression is characterised behind a component, where it is the continuation of that
segment (`Dead`, `seg_m`); what a chain of segments accepts is said at the beginning of one (`transSegs_chain`).
`pstr`, `PathOk` and `globWord` are what the theorems of `CminxProps/C15Glob.lean` are stated in; the other definitions
made here serve the proofs only.
-/
namespace Cminx
namespace Glob

theorem starK_eq_any (p : CC) (k : Str → Bool) (s : Str) :
    starK p k s = (List.range (s.length + 1)).any (fun i => (s.take i).all p.test && k (s.drop i)) := by
  induction s with
  | nil => simp [starK]
  | cons x xs ih =>
    rw [starK, ih, List.length_cons, List.range_succ_eq_map (n := xs.length + 1)]
    simp [List.any_map, Function.comp_def, Bool.and_assoc, List.and_any_distrib_left]

theorem starK_of_nil (p : CC) (k : Str → Bool) (c : Str) (h0 : starK p k [] = true) (hc : ∀ x ∈ c, p.test x = true) :
    starK p k c = true := by
  induction c with
  | nil => exact h0
  | cons x c ih =>
    rw [starK, ih (fun y hy => hc y (List.mem_cons_of_mem _ hy)), hc x List.mem_cons_self]
    simp

/-- `p*` over characters that all pass, then a fixed word: the word is a suffix -/
theorem starK_beq (p : CC) (w c : Str) (hc : ∀ x ∈ c, p.test x = true) : starK p (· == w) c = w.isSuffixOf c := by
  rw [Bool.eq_iff_iff, List.isSuffixOf_iff_suffix]
  induction c with
  | nil => rw [starK, beq_iff_eq, List.suffix_nil, eq_comm]
  | cons x c ih =>
    rw [starK, hc x List.mem_cons_self, Bool.true_and, Bool.or_eq_true, ih (fun y hy => hc y (List.mem_cons_of_mem _ hy)),
      List.suffix_cons_iff, beq_iff_eq, eq_comm]

section
variable (k : Str → Bool) (a b : Re) (p : CC) (c x : Char) (s : Str)

@[simp] theorem m_eps : Re.eps.m k s = k s := rfl
@[simp] theorem m_seq : (Re.seq a b).m k s = a.m (b.m k) s := rfl
@[simp] theorem m_alt : (Re.alt a b).m k s = (a.m k s || b.m k s) := rfl
@[simp] theorem m_chr_nil : (Re.chr p).m k [] = false := rfl
@[simp] theorem m_chr_cons : (Re.chr p).m k (x :: s) = (p.test x && k s) := rfl
@[simp] theorem m_star : (Re.star p).m k s = starK p k s := rfl
@[simp] theorem m_plus_cons : (Re.plus p).m k (x :: s) = (p.test x && starK p k s) := rfl
@[simp] theorem m_eol : Re.eol.m k s = ((s == [] || s == ['\n']) && k s) := rfl
@[simp] theorem test_lit : (CC.lit c).test x = (x == c) := rfl
@[simp] theorem test_notSlash : CC.notSlash.test x = (x != '/') := rfl
@[simp] theorem test_dot : CC.dot.test x = (x != '\n') := rfl

end

/-- `.*` then `/` then `k` -/
def after (k : Str → Bool) : Str → Bool := starK .dot (Re.m (.chr (.lit '/')) k)

/-- the optional prefix `(?:.+/)?` -/
def optPre : Re := Re.opt (.seq (.plus .dot) (.chr (.lit '/')))

/-- `(?:/|$)` -/
def endRe : Re := .alt (.chr (.lit '/')) .eol

section
variable (k : Str → Bool)

theorem after_cons (x : Char) (t : Str) : after k (x :: t) = ((x == '/' && k t) || (x != '\n' && after k t)) := rfl

theorem after_slash (t : Str) : after k ('/' :: t) = (k t || after k t) := rfl

theorem after_comp (c : Str) (hc : ∀ x ∈ c, x ≠ '/' ∧ x ≠ '\n') (t : Str) : after k (c ++ t) = after k t := by
  induction c with
  | nil => rfl
  | cons x c ih =>
    have := hc x List.mem_cons_self
    rw [List.cons_append, after_cons, beq_false_of_ne this.1, bne_iff_ne.2 this.2,
      ih (fun y hy => hc y (List.mem_cons_of_mem _ hy))]
    rfl

/-- in front of a component `(?:.+/)?` is `.*/` started one slash earlier -/
theorem optPre_m (x : Char) (t : Str) (h : x ≠ '/') : optPre.m k (x :: t) = after k ('/' :: x :: t) := by
  rw [after_slash, after_cons, beq_false_of_ne h, Bool.or_comm]
  rfl

end

/-- what may follow a segment dies inside a component -/
def Dead (K : Str → Bool) : Prop := ∀ x b, x ≠ '/' ∧ x ≠ '\n' → K (x :: b) = false

theorem dead_slash (k : Str → Bool) : Dead ((Re.chr (.lit '/')).m k) := by
  intro x b h
  simp [h.1]

theorem dead_endRe (k : Str → Bool) : Dead (endRe.m k) := by
  intro x b h
  simp [endRe, h.1, h.2]

/-- what follows the first component of a path -/
def rest : List Str → Str
  | [] => []
  | x :: xs => '/' :: joinWith ['/'] (x :: xs)

theorem join_cons (x : Str) (xs : List Str) : joinWith ['/'] (x :: xs) = x ++ rest xs := by
  cases xs <;> simp [joinWith_cons_cons, rest]

/-- the expressions `segGlob` produces for a segment without `/` -/
inductive SegRe : Re → Prop
  | eps : SegRe .eps
  | chr (p : CC) (G : Re) : p.test '/' = false → SegRe G → SegRe (.seq (.chr p) G)
  | star (G : Re) : SegRe G → SegRe (.seq (.star .notSlash) G)

theorem starK_rest (f : Str → Bool) (xs : List Str) : starK .notSlash f (rest xs) = f (rest xs) := by
  cases xs <;> simp [rest, starK]

theorem chr_rest (p : CC) (hp : p.test '/' = false) (k : Str → Bool) (xs : List Str) : (Re.chr p).m k (rest xs) = false := by
  cases xs <;> simp [rest, hp]

/-- Such an expression takes a whole component `c`: in front of what follows it in a path, and of a continuation `K`
    that wants a slash or the end, it cannot stop inside `c` nor run past it. -/
theorem seg_m (G : Re) (hG : SegRe G) (K : Str → Bool) (hK : Dead K) (xs : List Str)
    (c : Str) (hc : ∀ x ∈ c, x ≠ '/' ∧ x ≠ '\n') :
    G.m K (c ++ rest xs) = (G.m (·.isEmpty) c && K (rest xs)) := by
  induction hG generalizing c with
  | eps =>
    cases c with
    | nil => rfl
    | cons x c => exact hK x _ (hc x List.mem_cons_self)
  | chr p G hp hG ih =>
    cases c with
    | nil => exact chr_rest p hp _ xs
    | cons x c =>
      rw [List.cons_append, m_seq, m_seq, m_chr_cons, m_chr_cons, ih c (fun y hy => hc y (List.mem_cons_of_mem _ hy)),
        Bool.and_assoc]
  | star G hG ih =>
    simp only [m_seq, m_star]
    -- `[^/]*` takes a prefix of `c`: inner induction on `c`; `ih` is used with what is left of `c` for `G`
    induction c with
    | nil => rw [List.nil_append, starK_rest, starK, ← ih [] nofun, List.nil_append]
    | cons x c ihc =>
      rw [List.cons_append, starK, starK, ihc (fun y hy => hc y (List.mem_cons_of_mem _ hy)), ← List.cons_append, ih _ hc,
        test_notSlash, bne_iff_ne.2 (hc x List.mem_cons_self).1]
      cases K (rest xs) <;> simp

theorem segGlob_lit (x : Char) (g : Str) (hx : x ≠ '\\' ∧ x ≠ '*' ∧ x ≠ '?' ∧ x ≠ '[') :
    segGlob (x :: g) = (segGlob g).map (Re.seq (.chr (.lit x))) := by
  rw [segGlob.eq_def]
  simp only [if_neg hx.1, if_neg hx.2.1, if_neg hx.2.2.1, if_neg hx.2.2.2]

theorem segGlob_star (g : Str) : segGlob ('*' :: g) = (segGlob g).map (Re.seq (.star .notSlash)) := by
  rw [segGlob.eq_def]
  simp

theorem segGlob_SegRe (g : Str) (hg : ∀ x ∈ g, x ≠ '/') (G : Re) (hG : segGlob g = .ok G) : SegRe G := by
  -- the cases of `segGlob`, here and below: 1 `[]`, 2 `\` at the end, 3 `\d`, 4 `*`, 5 `?`, 6 `[`, 7 any other character
  fun_induction segGlob g generalizing G with
  | case1 =>
    cases hG
    exact .eps
  | case2 => cases hG
  | case3 d r' ih =>
    obtain ⟨G', h, rfl⟩ := Except.map_ok_inv hG
    exact .chr _ _ (by simpa using (hg d (by simp)).symm) (ih (fun x hx => hg x (by simp [hx])) _ h)
  | case4 r h1 ih =>
    obtain ⟨G', h, rfl⟩ := Except.map_ok_inv hG
    exact .star _ (ih (fun x hx => hg x (by simp [hx])) _ h)
  | case5 r h1 h2 ih =>
    obtain ⟨G', h, rfl⟩ := Except.map_ok_inv hG
    exact .chr _ _ (by simp) (ih (fun x hx => hg x (by simp [hx])) _ h)
  | case6 => cases hG
  | case7 c r h1 h2 h3 h4 ih =>
    obtain ⟨G', h, rfl⟩ := Except.map_ok_inv hG
    exact .chr _ _ (by simpa using (hg c (by simp)).symm) (ih (fun x hx => hg x (by simp [hx])) _ h)

/-- a glob that takes the empty component begins with `*`, and takes every component -/
theorem segGlob_empty (g : Str) (G : Re) (hG : segGlob g = .ok G) (h0 : g ≠ []) (k : Str → Bool)
    (hk : G.m k [] = true) (c : Str) (hc : ∀ x ∈ c, x ≠ '/') : G.m k c = true := by
  revert hG
  fun_cases segGlob g with
  | case1 => exact fun _ => absurd rfl h0
  | case2 => exact nofun
  | case3 d r' =>
    intro hG
    obtain ⟨G', -, rfl⟩ := Except.map_ok_inv hG
    simp at hk
  | case4 r h1 =>
    intro hG
    obtain ⟨G', -, rfl⟩ := Except.map_ok_inv hG
    exact starK_of_nil _ _ c hk (fun x hx => by simpa using hc x hx)
  | case5 r h1 h2 =>
    intro hG
    obtain ⟨G', -, rfl⟩ := Except.map_ok_inv hG
    simp at hk
  | case6 => exact nofun
  | case7 a r h1 h2 h3 h4 =>
    intro hG
    obtain ⟨G', -, rfl⟩ := Except.map_ok_inv hG
    simp at hk

theorem segGlob_unsup (g : Str) (h : segGlob g = .error .unsupported) : '[' ∈ g := by
  fun_induction segGlob g with
  | case1 => cases h
  | case2 => cases h
  | case3 d r' ih => simp [ih (Except.map_error_inv h)]
  | case4 r h1 ih => simp [ih (Except.map_error_inv h)]
  | case5 r h1 h2 ih => simp [ih (Except.map_error_inv h)]
  | case6 => simp
  | case7 c r h1 h2 h3 h4 ih => simp [ih (Except.map_error_inv h)]

/-- the expression for a word of ordinary characters -/
def litRe : Str → Re
  | [] => .eps
  | c :: r => .seq (.chr (.lit c)) (litRe r)

/-- no character that `segGlob` treats specially -/
def NoMeta (n : Str) : Prop := ∀ c ∈ n, c ≠ '\\' ∧ c ≠ '*' ∧ c ≠ '?' ∧ c ≠ '['

theorem segGlob_litRe (n : Str) (hn : NoMeta n) : segGlob n = .ok (litRe n) := by
  induction n with
  | nil => rfl
  | cons c r ih =>
    rw [segGlob_lit c r (hn c List.mem_cons_self), ih (fun x hx => hn x (List.mem_cons_of_mem _ hx))]
    rfl

theorem litRe_m_isEmpty (n c : Str) : (litRe n).m (·.isEmpty) c = (c == n) := by
  induction n generalizing c with
  | nil => cases c <;> simp [litRe]
  | cons a n ih => cases c <;> simp [litRe, ih]

/-- a whole path component is in the language of a one-segment glob -/
def globWord (g c : Str) : Bool :=
  match segGlob g with
  | .ok re => re.m (fun r => r.isEmpty) c
  | .error _ => false

theorem globWord_of_ok (g : Str) (G : Re) (hG : segGlob g = .ok G) (c : Str) : globWord g c = G.m (·.isEmpty) c := by
  rw [globWord, hG]

theorem globWord_noMeta (n : Str) (hn : NoMeta n) (c : Str) : globWord n c = (c == n) := by
  rw [globWord_of_ok n _ (segGlob_litRe n hn), litRe_m_isEmpty]

theorem globWord_star_lit (w : Str) (hw : NoMeta w) (c : Str) (hc : ∀ x ∈ c, x ≠ '/') :
    globWord ('*' :: w) c = w.isSuffixOf c := by
  rw [globWord_of_ok _ _ (by rw [segGlob_star, segGlob_litRe w hw]; rfl), m_seq, m_star, funext (litRe_m_isEmpty w),
    starK_beq _ w c (by simpa using hc)]

theorem transSegs_dstar_first (d : Bool) (segs : List Str) (ns : Bool) :
    transSegs d (dstar :: segs) true ns = (transSegs d segs false ns).map (Re.seq optPre) := by
  rw [transSegs]
  simp [optPre]

theorem transSegs_dstar_last (d : Bool) (ns : Bool) : transSegs d [dstar] false ns = .ok (.chr (.lit '/')) := by
  simp [transSegs]

theorem transSegs_seg (d : Bool) (g : Str) (G : Re) (hd : g ≠ dstar) (hs : g ≠ ['*']) (hG : segGlob g = .ok G)
    (segs : List Str) (first ns : Bool) :
    transSegs d (g :: segs) first ns =
      if segs = [] then .ok (.seq (if ns then .chr (.lit '/') else .eps) (.seq G endRe))
      else (transSegs d segs false true).map (fun t => .seq (if ns then .chr (.lit '/') else .eps) (.seq G t)) := by
  rw [transSegs]
  simp only [if_neg hd, if_neg hs, hG]
  rfl

theorem transSegs_unsup (d : Bool) (segs : List Str) (first ns : Bool)
    (h : transSegs d segs first ns = .error .unsupported) : ∃ seg ∈ segs, '[' ∈ seg := by
  have lift : ∀ {s : Str} {rest : List Str}, (∃ seg ∈ rest, '[' ∈ seg) → ∃ seg ∈ s :: rest, '[' ∈ seg :=
    fun ⟨seg, hs, hb⟩ => ⟨seg, List.mem_cons_of_mem _ hs, hb⟩
  revert h
  fun_induction transSegs d segs first ns with
  | case1 => exact nofun
  | case2 rest ns ih => exact fun h => lift (ih (Except.map_error_inv h))
  | case3 rest first ns _ _ ih => exact fun h => lift (ih (Except.map_error_inv h))
  | case4 => exact nofun
  | case5 seg rest first ns _ e he =>
    intro h
    cases h
    refine ⟨seg, List.mem_cons_self, ?_⟩
    split at he
    · cases he
    · exact segGlob_unsup seg he
  | case6 => exact nofun
  | case7 seg rest first ns _ g _ lead _ ih => exact fun h => lift (ih (Except.map_error_inv h))

theorem splitSlash_noSlash (w : Str) (hw : ∀ x ∈ w, x ≠ '/') : splitSlash w = [w] := by
  induction w with
  | nil => rfl
  | cons c r ih =>
    have hc : c ≠ '/' := hw c List.mem_cons_self
    rw [splitSlash, if_neg hc, ih (fun x hx => hw x (List.mem_cons_of_mem _ hx))]

theorem splitSlash_append_slash (w : Str) (hw : ∀ x ∈ w, x ≠ '/') (r : Str) :
    splitSlash (w ++ '/' :: r) = w :: splitSlash r := by
  induction w with
  | nil => simp [splitSlash]
  | cons c w ih =>
    have hc : c ≠ '/' := hw c List.mem_cons_self
    rw [List.cons_append, splitSlash, if_neg hc, ih (fun x hx => hw x (List.mem_cons_of_mem _ hx))]

theorem splitSlash_joinWith (ws : List Str) (hne : ws ≠ []) (hw : ∀ w ∈ ws, ∀ x ∈ w, x ≠ '/') :
    splitSlash (joinWith ['/'] ws) = ws := by
  induction ws with
  | nil => exact absurd rfl hne
  | cons w ws ih =>
    cases ws with
    | nil => simpa using splitSlash_noSlash w (hw w (by simp))
    | cons w' ws =>
      rw [joinWith_cons_cons, List.append_assoc, List.singleton_append,
        splitSlash_append_slash w (hw w (by simp)), ih (by simp) (fun v hv => hw v (List.mem_cons_of_mem _ hv))]

theorem flatten_splitSlash_subset (s : Str) : (splitSlash s).flatten ⊆ s := by
  fun_induction splitSlash s with
  | case1 => simp
  | case2 r ih => exact List.subset_cons_of_subset _ ih
  | case3 a r h e ih => simp
  | case4 a r h w ws e ih =>
    rw [e] at ih
    exact List.cons_subset_cons a ih

theorem normHead_subset (l : List Str) : normHead l ⊆ dstar :: l := by
  fun_cases normHead l with
  | case1 => exact List.nil_subset _
  | case2 rest => exact List.subset_cons_of_subset _ (List.subset_cons_self _ _)
  | case3 => exact List.subset_cons_self _ _
  | case4 => exact List.Subset.refl _
  | case5 => exact List.subset_cons_self _ _

theorem normHead_ne_nil (g : Str) (rest : List Str) (hg : g ≠ []) : normHead (g :: rest) ≠ [] := by
  rw [normHead, if_neg hg]
  split
  · split <;> simp
  · simp

theorem lastToStars_subset (l : List Str) : lastToStars l ⊆ dstar :: l := by
  fun_induction lastToStars l with
  | case1 => exact List.nil_subset _
  | case2 => exact List.cons_subset_cons _ (List.nil_subset _)
  | case3 => exact List.subset_cons_self _ _
  | case4 a r h ih =>
    exact List.cons_subset.2 ⟨List.mem_cons_of_mem _ List.mem_cons_self,
      ih.trans (List.cons_subset_cons _ (List.subset_cons_self _ _))⟩

theorem lastToStars_id (ns : List Str) (h : ∀ n ∈ ns, n ≠ []) : lastToStars ns = ns := by
  induction ns with
  | nil => rfl
  | cons a r ih =>
    cases r with
    | nil => simp [lastToStars, h a (by simp)]
    | cons b r =>
      rw [lastToStars, ih (fun v hv => h v (List.mem_cons_of_mem _ hv))]
      simp

theorem dedupStars_subset (l : List Str) : dedupStars l ⊆ l := by
  fun_induction dedupStars l with
  | case1 => exact List.Subset.refl _
  | case2 a r h ih => exact List.cons_subset_cons _ (List.nil_subset _)
  | case3 a r b r' h h' ih => exact List.subset_cons_of_subset _ (h ▸ ih)
  | case4 a r b r' h h' ih => exact List.cons_subset_cons _ (h ▸ ih)

theorem dedupStars_id (ns : List Str) (h : ∀ n ∈ ns, n ≠ dstar) : dedupStars ns = ns := by
  induction ns with
  | nil => rfl
  | cons a r ih =>
    rw [dedupStars, ih (fun v hv => h v (List.mem_cons_of_mem _ hv))]
    cases r with
    | nil => rfl
    | cons b r => simp [h a (by simp)]

theorem dstar_ne_nil : dstar ≠ [] := List.cons_ne_nil _ _

/-- `__normalize_segments` up to the special cases -/
def normSegs (orig : List Str) : List Str := dedupStars (lastToStars (normHead orig))

theorem normSegs_subset (orig : List Str) : normSegs orig ⊆ dstar :: orig :=
  (dedupStars_subset _).trans
    ((lastToStars_subset _).trans (List.cons_subset.2 ⟨List.mem_cons_self, normHead_subset orig⟩))

theorem normHead_ne_nil_of_normSegs {orig : List Str} (h : normSegs orig ≠ []) : normHead orig ≠ [] := by
  intro e
  rw [normSegs, e] at h
  exact h rfl

section
variable (g : Str) (h0 : g ≠ []) (hd : g ≠ dstar)
include h0 hd

/-- `g`: may match at any depth -/
theorem normSegs_one : normSegs [g] = [dstar, g] := by
  simp [normSegs, normHead, lastToStars, dedupStars, h0, hd]

/-- `g/` -/
theorem normSegs_dir : normSegs [g, []] = [dstar, g, dstar] := by
  simp [normSegs, normHead, lastToStars, dedupStars, h0, hd]

/-- `g/**` -/
theorem normSegs_below : normSegs [g, dstar] = [g, dstar] := by
  simp [normSegs, normHead, lastToStars, dedupStars, h0, hd, dstar_ne_nil]

end

/-- `/n₁/…/n_k` -/
theorem normSegs_root (ns : List Str) (h0 : ∀ n ∈ ns, n ≠ []) (hd : ∀ n ∈ ns, n ≠ dstar) : normSegs ([] :: ns) = ns := by
  rw [normSegs, normHead, if_pos rfl, lastToStars_id ns h0, dedupStars_id ns hd]

/-- a pattern with no slash, or only a trailing one, floats anyway: `**` in front changes nothing -/
theorem normSegs_dstar_cons (g : Str) (rest : List Str) (hg : g ≠ []) (hr : rest = [] ∨ rest = [[]]) :
    normSegs (dstar :: g :: rest) = normSegs (g :: rest) := by
  by_cases hd : g = dstar
  · subst hd
    rcases hr with rfl | rfl <;> simp [normSegs, normHead, lastToStars, dedupStars, dstar_ne_nil]
  · rcases hr with rfl | rfl <;> simp [normSegs, normHead, lastToStars, dedupStars, hg, hd, dstar_ne_nil]

/-- the first step of `compile`: trailing white space goes, unless the pattern ends in an escaped blank -/
def rstripPat (p : Str) : Str := if (['\\', ' '] : Str).reverse.isPrefixOf p.reverse then p else rstripWs p

/-- the negation mark: the verdict of the pattern, and the pattern without the mark -/
def bang (p0 : Str) : Bool × Str :=
  match p0 with
  | '!' :: r => (false, r)
  | _ => (true, p0)

/-- `compile` after the negation mark: the segments are normalised; the special cases of `__normalize_segments`;
    `__translate_segments` -/
def compileCore (excl : Bool) (p1 : Str) : Except GErr Compiled :=
  let orig := splitSlash p1
  let isDir : Bool := orig.getLast? = some []
  let s3 := normSegs orig
  if normHead orig = [] then .error .invalid
  else if s3 = [dstar] then .ok (.pat excl false (if isDir then .chr (.lit '/') else .chr .dot))
  else if s3 = [dstar, ['*']] then .ok (.pat excl false (.chr .dot))
  else if s3 = [dstar, ['*'], dstar] then .ok (.pat excl false (.chr (.lit '/')))
  else match transSegs isDir s3 true false with
    | .ok re => .ok (.pat excl true re)
    | .error .unsupported => .error .unsupported
    | .error .invalid => .error .invalid

/-- `compile` after the treatment of trailing white space -/
def compileP0 (p0 : Str) : Except GErr Compiled :=
  if p0 = [] then .ok .skip
  else if p0.head? = some '#' then .ok .skip
  else if p0 = ['/'] then .ok .skip
  else compileCore (bang p0).1 (bang p0).2

/-- The model's `compile` is these stages one after the other.  `bang` and `compileCore` repeat the `match`es of `compile`
    word for word: that is what makes the two sides agree by unfolding. -/
theorem compile_eq (p : Str) : compile p = compileP0 (rstripPat p) := by
  unfold compile compileP0 compileCore normSegs rstripPat
  generalize (if (['\\', ' '] : Str).reverse.isPrefixOf p.reverse then p else rstripWs p) = p0
  simp only []
  rfl

theorem rstripPat_id (p : Str) (hl : ∀ c, p.getLast? = some c → pyIsSpace c = false) : rstripPat p = p := by
  unfold rstripPat
  split
  · rfl
  · exact rstripWs_of_getLast p hl

theorem rstripPat_of_not (p : Str) (hb : ¬ (['\\', ' '] : Str).reverse.isPrefixOf p.reverse) : rstripPat p = rstripWs p :=
  if_neg hb

theorem rstripPat_prefix (p : Str) : rstripPat p <+: p := by
  unfold rstripPat
  split
  · exact List.prefix_refl p
  · exact rstripWs_prefix p

theorem bang_cons (c : Char) (r : Str) (h : c ≠ '!') : bang (c :: r) = (true, c :: r) := by
  unfold bang
  split
  · rename_i e
    cases e
    exact absurd rfl h
  · rfl

theorem bang_suffix (p0 : Str) : (bang p0).2 <:+ p0 := by
  unfold bang
  split
  · exact List.suffix_cons _ _
  · exact List.suffix_refl _

theorem bang_bang (r : Str) : bang ('!' :: r) = (false, r) := rfl

theorem compileP0_skip (p0 : Str) (h : p0 = [] ∨ p0.head? = some '#' ∨ p0 = ['/']) : compileP0 p0 = .ok .skip := by
  rw [compileP0]
  rcases h with h | h | h
  · rw [if_pos h]
  · rw [if_pos h]
    split <;> rfl
  · simp [h]

theorem compileP0_core (p0 : Str) (h : ¬ (p0 = [] ∨ p0.head? = some '#' ∨ p0 = ['/'])) :
    compileP0 p0 = compileCore (bang p0).1 (bang p0).2 := by
  rw [not_or, not_or] at h
  rw [compileP0, if_neg h.1, if_neg h.2.1, if_neg h.2.2]

theorem compile_clean_pos (p : Str) (h1 : p ≠ []) (hl : ∀ c, p.getLast? = some c → pyIsSpace c = false)
    (hh : p.head? ≠ some '#') (hs : p ≠ ['/']) (hb : p.head? ≠ some '!') :
    compile p = compileCore true p := by
  rw [compile_eq, rstripPat_id p hl, compileP0_core p (by simp [h1, hh, hs])]
  obtain ⟨a, r, rfl⟩ := List.exists_cons_of_ne_nil h1
  rw [bang_cons a r (by simpa using hb)]

theorem compile_clean_neg (r : Str) (hl : ∀ c, ('!' :: r).getLast? = some c → pyIsSpace c = false) :
    compile ('!' :: r) = compileCore false r := by
  rw [compile_eq, rstripPat_id _ hl, compileP0_core _ (by simp), bang_bang]

/-- `compile_clean_pos` for a pattern put together from two pieces: the head is `p`'s, the last character `q`'s -/
theorem compile_clean_append (p q : Str) (hp : p ≠ []) (hq : q ≠ []) (hh : p.head? ≠ some '#') (hb : p.head? ≠ some '!')
    (hl : ∀ c, q.getLast? = some c → pyIsSpace c = false) : compile (p ++ q) = compileCore true (p ++ q) := by
  obtain ⟨a, r, rfl⟩ := List.exists_cons_of_ne_nil hp
  refine compile_clean_pos _ (by simp) ?_ (by simpa using hh) (by simp [hq]) (by simpa using hb)
  intro c hc
  rw [List.getLast?_append, List.getLast?_eq_some_getLast hq, Option.some_or] at hc
  exact hl c (hc ▸ List.getLast?_eq_some_getLast hq)

theorem compileCore_unsup (excl : Bool) (p1 : Str) (h : compileCore excl p1 = .error .unsupported) : '[' ∈ p1 := by
  have ht : ∃ d, transSegs d (normSegs (splitSlash p1)) true false = .error .unsupported := by
    revert h
    fun_cases compileCore excl p1
    case case6 ht => exact fun _ => ⟨_, ht⟩
    all_goals exact nofun
  obtain ⟨d, ht⟩ := ht
  obtain ⟨seg, hs, hb⟩ := transSegs_unsup _ _ _ _ ht
  rcases List.mem_cons.1 (normSegs_subset _ hs) with rfl | h2
  · simp [dstar] at hb
  · exact flatten_splitSlash_subset p1 (List.mem_flatten.2 ⟨seg, h2, hb⟩)

theorem compileCore_dstar_slash (excl : Bool) (p g : Str) (rest : List Str) (hS : splitSlash p = g :: rest) (hg : g ≠ [])
    (hr : rest = [] ∨ rest = [[]]) : compileCore excl (dstar ++ '/' :: p) = compileCore excl p := by
  have e1 : splitSlash (dstar ++ '/' :: p) = dstar :: g :: rest := by
    rw [splitSlash_append_slash dstar (by simp [dstar]), hS]
  rw [compileCore, compileCore, e1, hS, List.getLast?_cons_cons, normSegs_dstar_cons g rest hg hr,
    if_neg (normHead_ne_nil dstar _ dstar_ne_nil), if_neg (normHead_ne_nil g rest hg)]

/-! Paths as lists of components.

The string handed to the matcher is its components joined by `/`; a directory path ends in `/`, that is, in an
empty last component.  Read this way a path needs no case distinction between files and directories. -/

/-- the normalised path string: components joined by `/`, plus the trailing slash CMinx appends to directories -/
def pstr (cs : List Str) (isDir : Bool) : Str := joinWith ['/'] cs ++ (if isDir then ['/'] else [])

/-- path components as a file system has them: non-empty, without `/` and line feeds -/
def PathOk (cs : List Str) : Prop :=
  cs ≠ [] ∧ ∀ c ∈ cs, c ≠ [] ∧ (∀ x ∈ c, x ≠ '/' ∧ x ≠ '\n')

instance (cs : List Str) : Decidable (PathOk cs) := by unfold PathOk; infer_instance

/-- the components of `pstr cs d` -/
def comps (cs : List Str) (d : Bool) : List Str := cs ++ (if d then [[]] else [])

section
variable (cs : List Str) (d : Bool)

theorem pstr_eq_join (hne : cs ≠ []) : pstr cs d = joinWith ['/'] (comps cs d) := by
  cases d with
  | false => simp [pstr, comps]
  | true => simp [pstr, comps, joinWith_append _ cs [[]] hne (by simp)]

theorem comps_cons (c : Str) : comps (c :: cs) d = c :: comps cs d := rfl

theorem comps_eq_nil : comps cs d = [] ↔ cs = [] ∧ d = false := by
  cases d <;> simp [comps]

theorem mem_comps (x : Str) : x ∈ comps cs d ↔ x ∈ cs ∨ (d = true ∧ x = []) := by
  cases d <;> simp [comps]

theorem comps_dropLast : (comps cs d).dropLast = if d then cs else cs.dropLast := by
  cases d <;> simp [comps]

theorem prefix_comps (ns : List Str) (h : ∀ n ∈ ns, n ≠ []) : ns <+: comps cs d ↔ ns <+: cs := by
  cases d with
  | false => simp [comps]
  | true =>
    simp only [comps, if_true, List.prefix_concat_iff, or_iff_right_iff_imp]
    intro e
    exact absurd rfl (h [] (by simp [e]))

end

/-- path components (not pattern segments: those are `GSeg`) without `/` and line feeds; unlike in `PathOk` one may be
    empty, as the last component of a directory path is (`comps`) -/
def Segs (xs : List Str) : Prop := ∀ c ∈ xs, ∀ x ∈ c, x ≠ '/' ∧ x ≠ '\n'

theorem Segs.head {c : Str} {xs : List Str} (h : Segs (c :: xs)) : ∀ x ∈ c, x ≠ '/' ∧ x ≠ '\n' := h c List.mem_cons_self

theorem Segs.tail {c : Str} {xs : List Str} (h : Segs (c :: xs)) : Segs xs := fun y hy => h y (List.mem_cons_of_mem _ hy)

theorem Segs.suffix {suf xs : List Str} (h : Segs xs) (hs : suf <:+ xs) : Segs suf := fun y hy => h y (hs.subset hy)

theorem PathOk.segs {cs : List Str} (hp : PathOk cs) (d : Bool) : Segs (comps cs d) := by
  intro c hc
  rcases (mem_comps cs d c).1 hc with h | ⟨-, rfl⟩
  · exact (hp.2 c h).2
  · exact nofun

/-- some non-empty suffix satisfies `P`: what `**/` in front of a pattern asks of the components of a path -/
def anySuffix {α} (P : List α → Bool) : List α → Bool
  | [] => false
  | x :: xs => P (x :: xs) || anySuffix P xs

section
variable (k : Str → Bool) (P : List Str → Bool)

/-- behind a component `.*/` moves on to the beginning of any later one; `P` is `k` read on lists of components -/
theorem after_rest (xs : List Str) (hs : Segs xs) (h : ∀ suf, suf ≠ [] → suf <:+ xs → k (joinWith ['/'] suf) = P suf) :
    after k (rest xs) = anySuffix P xs := by
  induction xs with
  | nil => rfl
  | cons x xs ih =>
    rw [rest, after_slash, join_cons, after_comp k x hs.head, ← join_cons, h _ (List.cons_ne_nil x xs) (List.suffix_refl _),
      ih hs.tail (fun suf h0 h1 => h suf h0 (h1.trans (List.suffix_cons x xs)))]
    rfl

theorem optPre_join (a : Char) (r : Str) (xs : List Str) (hs : Segs ((a :: r) :: xs))
    (h : ∀ suf, suf ≠ [] → suf <:+ (a :: r) :: xs → k (joinWith ['/'] suf) = P suf) :
    optPre.m k (joinWith ['/'] ((a :: r) :: xs)) = anySuffix P ((a :: r) :: xs) := by
  rw [← after_rest k P _ hs h, rest, join_cons, List.cons_append, optPre_m k a _ (hs.head a List.mem_cons_self).1]

end

/-- a segment that `segGlob` translates: no `/`, not `*`, not `**` -/
structure GSeg (g : Str) : Prop where
  noSlash : ∀ x ∈ g, x ≠ '/'
  ne_dstar : g ≠ dstar
  ne_star : g ≠ ['*']
  ok : ∃ G, segGlob g = .ok G

theorem dstar_ne_of_noStar (n : Str) (h : ∀ x ∈ n, x ≠ '*') : n ≠ dstar := by
  intro e; subst e; exact h '*' (by simp [dstar]) rfl

/-- what `g₁/…/g_k`, or with `sl` `g₁/…/g_k/**`, accepts at the beginning of a component: the segments, as globs, take
    the first components, and behind `/**` something has to follow -/
def chainOk (sl : Bool) : List Str → List Str → Bool
  | [], xs => !sl || !xs.isEmpty
  | _ :: _, [] => false
  | g :: gs, c :: xs => globWord g c && chainOk sl gs xs

theorem chainOk_word (ns : List Str) (h : ∀ n ∈ ns, NoMeta n) (xs : List Str) : chainOk false ns xs = true ↔ ns <+: xs := by
  induction ns generalizing xs with
  | nil => simp [chainOk]
  | cons n ns ih =>
    cases xs with
    | nil => simp [chainOk]
    | cons c xs =>
      rw [chainOk, Bool.and_eq_true, globWord_noMeta n (h n List.mem_cons_self),
        ih (fun m hm => h m (List.mem_cons_of_mem _ hm)), List.cons_prefix_cons, beq_iff_eq, eq_comm]

/-- one floating segment asks for a component in its language; with `/**` behind it, not for the last one -/
theorem anySuffix_chainOk_one (g : Str) (sl : Bool) (xs : List Str) :
    anySuffix (chainOk sl [g]) xs = (if sl then xs.dropLast else xs).any (globWord g) := by
  induction xs with
  | nil => cases sl <;> rfl
  | cons x xs ih =>
    rw [anySuffix, ih]
    cases sl with
    | false => simp [chainOk]
    | true => cases xs <;> simp [chainOk]

theorem seg_join (g : Str) (G : Re) (hG : segGlob g = .ok G) (hs : ∀ x ∈ g, x ≠ '/') (K : Str → Bool) (hK : Dead K)
    (c : Str) (xs : List Str) (hc : Segs (c :: xs)) :
    G.m K (joinWith ['/'] (c :: xs)) = (globWord g c && K (rest xs)) := by
  rw [join_cons, seg_m G (segGlob_SegRe g hs G hG) K hK xs c hc.head, globWord_of_ok g G hG]

/-- `transSegs` on `g₁/…/g_k` or `g₁/…/g_k/**`: a slash if one is due, then an expression that, at the beginning of a
    component, accepts what `chainOk` says. -/
theorem transSegs_chain (d : Bool) (gs : List Str) (hne : gs ≠ []) (hgs : ∀ g ∈ gs, GSeg g) (sl : Bool) (first ns : Bool) :
    ∃ t, transSegs d (gs ++ (if sl then [dstar] else [])) first ns =
        .ok (.seq (if ns then .chr (.lit '/') else .eps) t) ∧
      ∀ xs, xs ≠ [] → Segs xs → t.m (fun _ => true) (joinWith ['/'] xs) = chainOk sl gs xs := by
  induction gs generalizing first ns with
  | nil => exact absurd rfl hne
  | cons g gs ih =>
    have hg := hgs g List.mem_cons_self
    obtain ⟨G, hG⟩ := hg.ok
    -- what follows `G`: `(?:/|$)`, the `/` of a trailing `**`, or `/` and the expression of the remaining segments
    have tail : ∃ T, transSegs d (g :: gs ++ (if sl then [dstar] else [])) first ns =
          .ok (.seq (if ns then .chr (.lit '/') else .eps) (.seq G T)) ∧ Dead (T.m fun _ => true) ∧
        ∀ xs, Segs xs → T.m (fun _ => true) (rest xs) = chainOk sl gs xs := by
      rw [List.cons_append, transSegs_seg d g G hg.ne_dstar hg.ne_star hG]
      cases gs with
      | nil =>
        cases sl with
        | false => exact ⟨endRe, if_pos rfl, dead_endRe _, fun xs _ => by cases xs <;> rfl⟩
        | true =>
          exact ⟨.chr (.lit '/'), by simp [transSegs_dstar_last, Except.map], dead_slash _,
            fun xs _ => by cases xs <;> rfl⟩
      | cons g' gs' =>
        obtain ⟨t', ht', hm⟩ := ih (List.cons_ne_nil g' gs') (fun g hg => hgs g (List.mem_cons_of_mem _ hg)) false true
        refine ⟨.seq (.chr (.lit '/')) t', by rw [if_neg (by simp), ht']; rfl, dead_slash _, fun xs hs => ?_⟩
        cases xs with
        | nil => rfl
        | cons x xs => exact hm _ (List.cons_ne_nil x xs) hs
    obtain ⟨T, hT, hK, hm⟩ := tail
    refine ⟨_, hT, fun xs hx hs => ?_⟩
    obtain ⟨c, xs, rfl⟩ := List.exists_cons_of_ne_nil hx
    rw [chainOk, ← hm xs hs.tail]
    exact seg_join g G hG hg.noSlash _ hK c xs hs

/-- `compileCore` for every pattern whose normalised segments are `[**/]g₁/…/g_k[/**]`: the expression (the same for
    both verdicts) is anchored; without `**/` in front it takes the path from its first component on, with it from any
    component on -/
theorem compileCore_segs (p : Str) (fl sl : Bool) (gs : List Str) (hne : gs ≠ []) (hgs : ∀ g ∈ gs, GSeg g) {orig : List Str}
    (hS : splitSlash p = orig)
    (h3 : normSegs orig = (if fl then [dstar] else []) ++ (gs ++ (if sl then [dstar] else []))) :
    ∃ re, (∀ excl, compileCore excl p = .ok (.pat excl true re)) ∧
      ∀ e cs d, PathOk cs → (Compiled.pat e true re).hits (pstr cs d) =
        if fl then anySuffix (chainOk sl gs) (comps cs d) else chainOk sl gs (comps cs d) := by
  subst hS
  have hs1 : normHead (splitSlash p) ≠ [] := normHead_ne_nil_of_normSegs (by rw [h3]; cases fl <;> simp [hne])
  obtain ⟨g, gs', rfl⟩ := List.exists_cons_of_ne_nil hne
  have hg := hgs g List.mem_cons_self
  -- without `**/` the chain is translated as the first segment, with it as a later one (`first := !fl`); `needSlash` is false
  -- in both cases, since `**/` in first position passes it on unchanged (`transSegs_dstar_first`)
  obtain ⟨t, ht, hm⟩ := transSegs_chain (decide ((splitSlash p).getLast? = some [])) (g :: gs') hne hgs sl (!fl) false
  rw [List.cons_append] at ht
  cases fl with
  | false =>
    refine ⟨.seq .eps t, fun excl => ?_, fun e cs d hp => ?_⟩
    · simp only [compileCore, if_neg hs1, h3]
      simp [hg.ne_dstar, show transSegs _ _ true false = _ from ht]
    · rw [pstr_eq_join cs d hp.1, if_neg Bool.false_ne_true, ← hm _ (by simp [comps_eq_nil, hp.1]) (hp.segs d)]
      rfl
  | true =>
    refine ⟨.seq optPre (.seq .eps t), fun excl => ?_, fun e cs d hp => ?_⟩
    · simp only [compileCore, if_neg hs1, h3]
      simp [transSegs_dstar_first, show transSegs _ _ false false = _ from ht, Except.map, hg.ne_star]
    · have hs := hp.segs d
      obtain ⟨c, cs, rfl⟩ := List.exists_cons_of_ne_nil hp.1
      obtain ⟨a, r, rfl⟩ := List.exists_cons_of_ne_nil (hp.2 c List.mem_cons_self).1
      rw [comps_cons] at hs
      rw [pstr_eq_join _ _ hp.1, comps_cons, if_pos rfl]
      exact optPre_join _ _ a r _ hs (fun suf h0 h1 => hm suf h0 (hs.suffix h1))

/-- the step function of `verdict`'s fold over the compiled patterns (`verdict_eq_foldl`) -/
def vstep (s : Str) (acc : Bool) (p : Compiled) : Bool :=
  match p with
  | .skip => acc
  | .pat excl _ _ => if p.hits s then excl else acc

theorem verdict_eq_foldl (cs : List Compiled) (s : Str) : verdict cs s = cs.foldl (vstep s) false := rfl

/-- folded from the right, the first pattern that hits decides; the start value stands if none does -/
theorem foldr_vstep_first (s : Str) (cs : List Compiled) (acc : Bool) :
    cs.foldr (fun p a => vstep s a p) acc = match cs.find? (·.hits s) with
      | some (.pat excl _ _) => excl
      | _ => acc := by
  induction cs with
  | nil => rfl
  | cons c cs ih =>
    rw [List.foldr_cons, ih, List.find?_cons]
    cases c with
    | skip => rfl
    | pat e a re =>
      rw [vstep]
      cases (Compiled.pat e a re).hits s <;> rfl

theorem foldl_vstep_pos (s : Str) (cs : List Compiled) (hpos : ∀ c ∈ cs, ∀ e a re, c = .pat e a re → e = true) (acc : Bool) :
    cs.foldl (vstep s) acc = (acc || cs.any (·.hits s)) := by
  induction cs generalizing acc with
  | nil => simp
  | cons c cs ih =>
    rw [List.foldl_cons, ih (fun c hc => hpos c (List.mem_cons_of_mem _ hc))]
    cases c with
    | skip => simp [vstep, Compiled.hits]
    | pat e a re =>
      have := hpos _ List.mem_cons_self e a re rfl
      subst this
      simp only [vstep, List.any_cons]
      cases acc <;> cases (Compiled.pat true a re).hits s <;> simp

theorem verdict_append (cs ds : List Compiled) (s : Str) :
    verdict (cs ++ ds) s = ds.foldl (vstep s) (verdict cs s) := by
  simp [verdict_eq_foldl, List.foldl_append]

theorem compileAll_eq_mapM (ps : List Str) : compileAll ps = ps.mapM compile := by
  induction ps with
  | nil => rfl
  | cons p ps ih =>
    rw [compileAll, ih, List.mapM_cons]
    cases compile p <;> rfl

end Glob
end Cminx
