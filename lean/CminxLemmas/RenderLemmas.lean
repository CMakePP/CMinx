import CminxLemmas.RstLemmas
import CminxModel.Walk
/-!
Lemmas about two model files, beside `RstLemmas`, for the text-level theorems (C07, C12, C02Text): the template
fragments of `DocTypes.lean` contain no newline (the notes and warnings, `signature_noNl`, `interpreted_noNl`); the
file-name functions of `Walk.lean` (`isCMakeName_iff`, `dropCMakeExt_*`, with `asciiLower_*`).
-/
namespace Cminx

/-! ## the template fragments of `DocTypes.lean` contain no newline -/

theorem macroNote_noNl : '\n' ∉ macroNote := not_mem_lit_of (by decide)
theorem genericWarning_noNl : '\n' ∉ genericWarning := not_mem_lit_of (by decide)
theorem ctestWarning_noNl : '\n' ∉ ctestWarning := not_mem_lit_of (by decide)
theorem testWarning_noNl : '\n' ∉ testWarning := not_mem_lit_of (by decide)
theorem sectionWarning_noNl : '\n' ∉ sectionWarning := not_mem_lit_of (by decide)
theorem methodMacroNote_noNl : '\n' ∉ methodMacroNote := not_mem_lit_of (by decide)

theorem ite_noNl {c : Prop} [Decidable c] {a b : Str} (ha : '\n' ∉ a) (hb : '\n' ∉ b) : '\n' ∉ (if c then a else b) := by
  split
  · exact ha
  · exact hb

theorem paren_noNl {name inner : Str} (hn : '\n' ∉ name) (hi : '\n' ∉ inner) : '\n' ∉ name ++ '(' :: (inner ++ [')']) := by
  simp [hn, hi]

theorem signature_noNl {name : Str} {params : List Str} (hn : '\n' ∉ name) (hp : ∀ p ∈ params, '\n' ∉ p) :
    '\n' ∉ signature name params :=
  paren_noNl hn (not_mem_joinWith (by decide) hp)

theorem interpreted_noNl {role text : Str} (hr : '\n' ∉ role) (ht : '\n' ∉ text) : '\n' ∉ interpreted role text := by
  simp [interpreted, hr, ht]

/-! ## `isCMakeName`, `dropCMakeExt`, `withPrefix` (`Walk.lean`) -/

theorem endsWith_iff_suffix (suf s : Str) : endsWith suf s = true ↔ suf <:+ s := by
  simp [endsWith, List.isPrefixOf_iff_prefix, List.reverse_prefix]

theorem asciiLower_length (s : Str) : (asciiLower s).length = s.length := by simp [asciiLower]

theorem asciiLower_append (a b : Str) : asciiLower (a ++ b) = asciiLower a ++ asciiLower b := by simp [asciiLower]

theorem lit_cmake_length : (lit ".cmake").length = 6 := congrArg List.length (lit_ofList _)

theorem isLowerCMakeName_iff (s : Str) :
    isLowerCMakeName s = true ↔ 6 ≤ s.length ∧ s.drop (s.length - 6) = lit ".cmake" := by
  rw [isLowerCMakeName, endsWith_iff_suffix, List.suffix_iff_eq_drop, lit_cmake_length]
  constructor
  · intro h
    have hl := congrArg List.length h
    rw [lit_cmake_length, List.length_drop] at hl
    exact ⟨by omega, h.symm⟩
  · rintro ⟨_, h⟩; exact h.symm

theorem isCMakeName_iff (s : Str) :
    isCMakeName s = true ↔ 6 ≤ s.length ∧ asciiLower (s.drop (s.length - 6)) = lit ".cmake" := by
  rw [show isCMakeName s = isLowerCMakeName (asciiLower s) from rfl, isLowerCMakeName_iff, asciiLower_length]
  simp only [asciiLower, List.map_drop]

theorem isCMakeName_length {s : Str} (h : isCMakeName s = true) : 6 ≤ s.length := ((isCMakeName_iff s).1 h).1

theorem isCMakeName_append (a s : Str) (h : 6 ≤ s.length) : isCMakeName (a ++ s) = isCMakeName s := by
  rw [Bool.eq_iff_iff, isCMakeName_iff, isCMakeName_iff, List.length_append, Nat.add_sub_assoc h,
    List.drop_length_add_append]
  exact ⟨fun hh => ⟨h, hh.2⟩, fun hh => ⟨Nat.le_trans h (Nat.le_add_left _ _), hh.2⟩⟩

theorem dropCMakeExt_append (a s : Str) (h : 6 ≤ s.length) : dropCMakeExt (a ++ s) = a ++ dropCMakeExt s := by
  rw [dropCMakeExt, dropCMakeExt, isCMakeName_append a s h]
  split
  · rw [List.length_append, Nat.add_sub_assoc h, List.take_length_add_append]
  · rfl

theorem dropCMakeExt_withPrefix (pfx : Option Str) (sep : Str) {rel : Str} (h : 6 ≤ rel.length) :
    dropCMakeExt (withPrefix pfx sep rel) = withPrefix pfx sep (dropCMakeExt rel) := by
  cases pfx with
  | none => rfl
  | some p => exact dropCMakeExt_append (p ++ sep) rel h

theorem dropCMakeExt_append_ext {s : Str} (h : isCMakeName s = true) :
    dropCMakeExt s ++ s.drop (s.length - 6) = s := by
  simp [dropCMakeExt, h, List.take_append_drop]

theorem eq_of_dropCMakeExt_eq {r₁ r₂ : Str} (h₁ : isCMakeName r₁ = true) (h₂ : isCMakeName r₂ = true)
    (hd : dropCMakeExt r₁ = dropCMakeExt r₂) (he : r₁.drop (r₁.length - 6) = r₂.drop (r₂.length - 6)) : r₁ = r₂ := by
  rw [← dropCMakeExt_append_ext h₁, ← dropCMakeExt_append_ext h₂, hd, he]

theorem asciiLower_lit_cmake : asciiLower (lit ".cmake") = lit ".cmake" := by
  rw [lit_ofList]; decide

theorem isCMakeName_of_lower {s : Str} (h : isLowerCMakeName s = true) : isCMakeName s = true := by
  obtain ⟨hl, he⟩ := (isLowerCMakeName_iff s).1 h
  exact (isCMakeName_iff s).2 ⟨hl, by rw [he, asciiLower_lit_cmake]⟩

end Cminx
