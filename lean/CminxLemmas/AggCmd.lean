import CminxLemmas.AggStep
import CminxModel.SpecSeq
/-!
Single commands against the specification: a command that is no declaration contributes what `Item.spec` says,
whatever awaits a definition (`step_cmd_spec`); a declaration (`cpp_member`, `cpp_constructor`, `ct_add_test`,
`ct_add_section`) leaves a state that is `Declared` (`step_decl`).
-/
namespace Cminx

/-! ## a command that is no declaration -/

theorem step_cmd_spec (cfg : Cfg) (doc : Option DocC) (call : Call) (inClass : Bool) (st : AggState)
    (hwf : (Item.cmd doc call).wf inClass = true) (hcls : inClass = true → st.classStack ≠ []) :
    step cfg st (docEvent doc call) =
      .ok (post st (Item.cmd doc call).cpaDirect ((Item.cmd doc call).spec cfg (ctxOf st.classStack))) := by
  simp [Item.wf] at hwf
  obtain ⟨⟨⟨⟨⟨hstruct, hgen⟩, hwset⟩, hwopt⟩, hwattr⟩, hwtest⟩ := hwf
  rw [not_mem_structuralNames] at hstruct
  by_cases hset : call.lname = lit "set"
  · have hl := hwset.resolve_left (not_not_intro hset)
    rw [step_set cfg st doc call hset, spec_cmd_set cfg _ doc call hset, processSet_eq st call _ hl]
    have hcpa : (Item.cmd doc call).cpaDirect = false := by simp [Item.cpaDirect, hset]
    rw [hcpa]
    cases doc with
    | none => simp [post_empty]
    | some d => rfl
  by_cases hopt : call.lname = lit "option"
  · obtain ⟨h2, h3⟩ := hwopt.resolve_left (not_not_intro hopt)
    rw [step_plain cfg st doc call .option _ rfl hopt rfl, spec_cmd_option cfg _ doc call hopt]
    simp [Item.cpaDirect, hopt, runProc, processOption_eq st call _ h2 h3, ok_post_ite]
  by_cases htest : call.lname = lit "add_test"
  · obtain ⟨h2, hnm⟩ := hwtest.resolve_left (not_not_intro htest)
    rw [step_plain cfg st doc call .addTest _ rfl htest rfl, spec_cmd_add_test cfg _ doc call htest]
    simp [Item.cpaDirect, htest, runProc, processAddTest_eq st call _ h2 hnm, ok_post_ite]
  by_cases hattr : call.lname = lit "cpp_attr"
  · obtain ⟨h2, hin⟩ := hwattr.resolve_left (not_not_intro hattr)
    rw [step_plain cfg st doc call .cppAttr _ rfl hattr rfl, spec_cmd_attr cfg _ doc call hattr]
    simp [Item.cpaDirect, hattr, runProc, processCppAttr_eq st call _ h2 (hcls hin), ok_post_ite]
    cases ctxOf st.classStack <;> simp
  by_cases hcpa : call.lname = lit "cmake_parse_arguments"
  · rw [step_cpa cfg st doc call hcpa, processCpa_eq, spec_cmd_cpa cfg _ doc call hcpa]
    simp [Item.cpaDirect, hcpa, post, absorb, absorbCls_of_empty]
  · have hs : specialNames.contains call.lname = false := by simp [specialNames, hstruct, hcpa]
    have hp : procOf call.lname = none := by simp [procOf, hstruct, hgen, hset, hopt, htest, hattr, hcpa]
    rw [step_generic cfg st doc call hs hp, spec_cmd_generic cfg _ doc call hset hopt htest hattr hcpa]
    simp [Item.cpaDirect, hcpa]

/-! ## `isDefName`, `isDeclName` (`CminxModel/SpecSeq.lean`) -/

theorem isDefName_iff (n : Str) : isDefName n = true ↔ n = lit "function" ∨ n = lit "macro" := by
  simp [isDefName]

theorem isDeclName_iff (n : Str) : isDeclName n = true ↔
    n = lit "cpp_member" ∨ n = lit "cpp_constructor" ∨ n = lit "ct_add_test" ∨ n = lit "ct_add_section" := by
  simp [isDeclName, or_assoc]

/-! ## the specification of a declaration, by kind -/

/-- what the claiming definition hands to the declaration -/
def implMacro : Option Call → Bool
  | some i => i.lname = lit "macro"
  | none => false
def implSingles : Option Call → List Str
  | some i => i.singles
  | none => []

section
variable (cfg : Cfg) (ctx : ClsCtx) (doc : Option DocC) (d : Call)

theorem declShown_test (sec : Bool)
    (h : d.lname = (ctProc sec).name) :
    declShown cfg ctx doc d = (doc.isSome || (if sec then cfg.inclCtAddSection else cfg.inclCtAddTest)) := by
  cases sec <;> simp [declShown, h, ctProc, Proc.name]

theorem declContrib_test (sec : Bool)
    (impl : Option Call) (h : d.lname = (ctProc sec).name) (hs : declShown cfg ctx doc d = true) :
    declContrib cfg ctx doc d impl =
      { top := [.test sec (nameOf d.singles).1 (docTextOf doc) (d.singles.contains (lit "EXPECTFAIL"))
                  ((implSingles impl).drop 2) (implMacro impl)] } := by
  cases sec <;> cases impl <;> simp [declContrib, hs, h, ctProc, Proc.name, implSingles, implMacro]

theorem declShown_member (ic : Bool)
    (h : d.lname = (memProc ic).name) :
    declShown cfg ctx doc d =
      (decide (ctx = .shown) && (doc.isSome || (if ic then cfg.inclCppConstructor else cfg.inclCppMember))) := by
  cases ic <;> simp [declShown, h, memProc, Proc.name]

theorem declContrib_member (ic : Bool)
    (impl : Option Call) (h : d.lname = (memProc ic).name) (hs : declShown cfg ctx doc d = true) :
    declContrib cfg ctx doc d impl =
      (let m : Method :=
          { name := d.singles.headD [], doc := docTextOf doc, parentClass := d.singles.getD 1 [],
            paramTypes := d.singles.drop 2, params := ((implSingles impl).map cfg.stripMember).drop 2, isCtor := ic,
            isMacro := implMacro impl }
        if ic then { ctors := [m] } else { members := [m] }) := by
  cases ic <;> cases impl <;> simp [declContrib, hs, h, memProc, Proc.name, implSingles, implMacro]

end

/-! ## `Declared`: the state a declaration leaves -/

/-- `s1` is a state the declaration `d`, issued in `st`, may leave.  The listener awaits the definition
    iff the specification shows the declaration; completing what awaits by `impl` gives `st` plus the contribution
    the specification assigns to the declaration (nothing, if it is not shown). -/
structure Declared (cfg : Cfg) (st : AggState) (doc : Option DocC) (d : Call) (s1 : AggState) : Prop where
  inv : InvA s1
  cs : s1.classStack = st.classStack
  aw : s1.awaiting.isSome = declShown cfg (ctxOf st.classStack) doc d
  done : ∀ impl, claimedAny cfg s1 impl = post st false (declContrib cfg (ctxOf st.classStack) doc d impl)

theorem Declared.hidden {cfg : Cfg} {st : AggState} {doc : Option DocC} {d : Call} (hinv : Inv st)
    (hsh : declShown cfg (ctxOf st.classStack) doc d = false) : Declared cfg st doc d st :=
  ⟨hinv.toA, rfl, by simp [hinv.aw, hsh],
    fun impl => by simp [claimedAny_none hinv.aw, declContrib, hsh, post_empty]⟩

theorem declare_test (cfg : Cfg) (sec : Bool) (st : AggState) (hinv : Inv st) (doc : Option DocC) (d : Call)
    (hn : d.lname = (ctProc sec).name) (hsh : declShown cfg (ctxOf st.classStack) doc d = true)
    (h2 : 2 ≤ d.singles.length) (hnm : nameOk d.singles = true) :
    Declared cfg st doc d (processCtTest sec st d.toCmd (docTextOf doc)) := by
  rw [processCtTest_eq st d _ sec h2 hnm]
  refine ⟨InvP.toA (ref := .entry st.documented.length)
    ⟨rfl, InRange.mono hinv.ds (by simp), InRange.mono hinv.cs (by simp), by simp [AwaitRef.inRange]⟩,
    rfl, by simp [hsh], fun impl => ?_⟩
  rw [claimedAny_some rfl, declContrib_test cfg _ doc d sec impl hn hsh]
  cases impl <;>
    simp [claimed, claimMod, implMacro, implSingles, modify_append_len, defineEntry, post_top, hinv.aw]

theorem declare_member (cfg : Cfg) (ic : Bool) (st : AggState) (hinv : Inv st) (doc : Option DocC) (d : Call)
    (hn : d.lname = (memProc ic).name) (hsh : declShown cfg (ctxOf st.classStack) doc d = true)
    (ci : Nat) (cs : List (Option Nat)) (h2 : 2 ≤ d.singles.length) (hc : st.classStack = some ci :: cs) :
    Declared cfg st doc d (processCppMember ic st d.toCmd (docTextOf doc)) := by
  rw [processCppMember_eq st d _ ic ci cs h2 hc]
  refine ⟨InvP.toA (ref := .method ci ic (methodCount ic (st.documented.getD ci default)))
    ⟨rfl, InRange.mono hinv.ds (by simp), InRange.mono hinv.cs (by simp),
      by simpa [AwaitRef.inRange] using hinv.cs ci (by rw [hc]; simp)⟩,
    rfl, by simp [hsh], fun impl => ?_⟩
  rw [claimedAny_some rfl, declContrib_member cfg _ doc d ic impl hn hsh]
  cases impl with
  | none =>
    cases ic <;> simp [claimed, claimMod, implMacro, implSingles, post, absorb, absorbCls, addMethod_eq, hc, hinv.aw]
  | some i =>
    simp only [claimed, claimMod, modify_define_addMethod]
    cases ic <;> simp [implMacro, implSingles, post, absorb, absorbCls, addMethod_eq, Method.define, hc, hinv.aw]

theorem step_decl (cfg : Cfg) (doc : Option DocC) (d : Call) (inClass : Bool) (st : AggState) (hinv : Inv st)
    (hn : isDeclName d.lname = true)
    (hargs : (if d.lname = lit "cpp_member" || d.lname = lit "cpp_constructor" then d.singles.length ≥ 2 && inClass
      else d.singles.length ≥ 2 && nameOk d.singles) = true)
    (hcls : inClass = true → st.classStack ≠ []) :
    ∃ s1, step cfg st (docEvent doc d) = .ok s1 ∧ Declared cfg st doc d s1 := by
  obtain ⟨ic, hic⟩ | ⟨sec, hsec⟩ :
      (∃ ic, d.lname = (memProc ic).name) ∨ (∃ sec, d.lname = (ctProc sec).name) := by
    rcases (isDeclName_iff _).1 hn with h | h | h | h
    · exact .inl ⟨false, h⟩
    · exact .inl ⟨true, h⟩
    · exact .inr ⟨false, h⟩
    · exact .inr ⟨true, h⟩
  · -- cpp_member / cpp_constructor: stored only inside a shown class
    have hmem : d.lname = lit "cpp_member" ∨ d.lname = lit "cpp_constructor" := by
      cases ic <;> simp [hic, memProc, Proc.name]
    obtain ⟨h2, hin⟩ : 2 ≤ d.singles.length ∧ inClass = true := by simpa [hmem] using hargs
    refine ⟨_, step_member cfg st doc d ic hic, ?_⟩
    have hsh := declShown_member cfg (ctxOf st.classStack) doc d ic hic
    cases hd : (doc.isSome || (if ic then cfg.inclCppConstructor else cfg.inclCppMember))
    · exact .hidden hinv (by simp [hsh, hd])
    rw [hd, Bool.and_true] at hsh
    rcases hcs : st.classStack with _ | ⟨_ | ci, cs⟩
    · exact absurd hcs (hcls hin)
    · rw [if_pos rfl, processCppMember_hidden st d _ ic cs h2 hcs]
      exact .hidden hinv (by simpa [hcs, ctxOf] using hsh)
    · exact declare_member cfg ic st hinv doc d hic (by simpa [hcs, ctxOf] using hsh) ci cs h2 hcs
  · -- ct_add_test / ct_add_section: stored wherever they stand
    have hmem : ¬ (d.lname = lit "cpp_member" ∨ d.lname = lit "cpp_constructor") := by
      cases sec <;> simp [hsec, ctProc, Proc.name]
    obtain ⟨h2, hnm⟩ : 2 ≤ d.singles.length ∧ nameOk d.singles = true := by simpa [hmem] using hargs
    refine ⟨_, step_test cfg st doc d sec hsec, ?_⟩
    have hsh := declShown_test cfg (ctxOf st.classStack) doc d sec hsec
    cases hd : (doc.isSome || (if sec then cfg.inclCtAddSection else cfg.inclCtAddTest))
    · exact .hidden hinv (hsh.trans hd)
    · exact declare_test cfg sec st hinv doc d hsec (hsh.trans hd) h2 hnm

end Cminx
