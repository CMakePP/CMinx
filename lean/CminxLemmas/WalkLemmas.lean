import CminxProps.WalkSpec
import CminxLemmas.StrLemmas
/-!
Lemmas about L7 (`Walk.lean`) and its specification (`WalkSpec.lean`).  The walk is flattened: every item adds its
own outcome (`WItem.out`) to the run so far by `RunResult.app`, which stops at the first error, so a run is the
error-free run of all items or of those before the first one that fails (`runItems_cases`).  `layoutK` is the item
list exactly as `walkDir` produces it (sub-directories selected through the model's name lookup `keepDir`), with
`walkDir_eq : walkDir … r = runItems … (layoutK …) r` for *every* tree; for trees whose sub-directory names are
distinct (`treeOk`) it is the declarative `layoutOf` of `WalkSpec.lean` (`layoutK_eq`).
The vocabulary the proofs run on is defined here, not in `WalkSpec.lean`: `WItem.active`, `WItem.out`, `emitItem`,
`runItems`, `WItem.Ok`, `ranOk`, `keepDir`, `dirItemsWith`, `layoutK`.  `RunResult.seq` is `RunResult.app` under the name
the accumulator statements `walkDir_seq`/`walkSubs_seq` use (`RunResult.seq_eq_app`).
-/
namespace Cminx

variable {c : WalkCfg} {excl : List Str → Bool → Bool} {pfx : Str} {rel : List Str} {listing l : List FsNode}
  {r : RunResult} {it : WItem} {items : List WItem}

/-- Induction over a listing with the children of every directory as a second hypothesis.  `FsNode` is nested through
    `List`, so its recursor has a motive for nodes and one for lists (`rec_1` is the list half); the node motive
    "prepending `x` preserves `P`" makes the two cons cases come out as stated. -/
theorem FsNode.list_induction {P : List FsNode → Prop} (nil : P [])
    (file : ∀ n c rest, P rest → P (.file n c :: rest))
    (dir : ∀ n ch rest, P ch → P rest → P (.dir n ch :: rest)) : ∀ l, P l :=
  @FsNode.rec_1 (fun x => ∀ rest, P rest → P (x :: rest)) P
    (fun n c rest h => file n c rest h) (fun n ch ih rest h => dir n ch rest ih h)
    nil (fun _ xs ihx ihxs => ihx xs ihxs)

theorem FsNode.children_induction {P : List FsNode → Prop}
    (step : ∀ l : List FsNode, (∀ n ch, FsNode.dir n ch ∈ l → P ch) → P l) (l : List FsNode) : P l := by
  refine step l ?_
  induction l using FsNode.list_induction with
  | nil => intro n ch h; cases h
  | file m ct rest ih =>
    intro n ch h
    rcases List.mem_cons.1 h with he | h
    · cases he
    · exact ih n ch h
  | dir m ch' rest ihc ih =>
    intro n ch h
    rcases List.mem_cons.1 h with he | h
    · cases he; exact step _ ihc
    · exact ih n ch h

/-! ## listings: `fileNames`, `dirNames`, `findFile`, `findDir` -/

theorem mem_dirNames_iff {n : Str} {l : List FsNode} : n ∈ dirNames l ↔ ∃ ch, FsNode.dir n ch ∈ l := by
  induction l with
  | nil => simp [dirNames]
  | cons x xs ih =>
    cases x with
    | file m ct => simp [dirNames, ih]
    | dir m ch => simp [dirNames, ih, exists_or]

theorem mem_fileNames {l : List FsNode} {f : Str} : f ∈ fileNames l ↔ ∃ ct, FsNode.file f ct ∈ l := by
  induction l with
  | nil => simp [fileNames]
  | cons x xs ih =>
    cases x with
    | dir m ch => simp [fileNames, ih]
    | file m ct => simp [fileNames, ih, exists_or]

theorem fileNames_sublist_names (l : List FsNode) : (fileNames l).Sublist (l.map FsNode.name) := by
  induction l with
  | nil => exact .slnil
  | cons x l ih =>
    cases x with
    | file n c => exact ih.cons_cons n
    | dir n ch => exact ih.cons n

theorem dirNames_sublist_names (l : List FsNode) : (dirNames l).Sublist (l.map FsNode.name) := by
  induction l with
  | nil => exact .slnil
  | cons x l ih =>
    cases x with
    | file n c => exact ih.cons n
    | dir n ch => exact ih.cons_cons n

theorem findFile_eq_none_iff {f : Str} : findFile f l = none ↔ f ∉ fileNames l := by
  induction l with
  | nil => simp [findFile, fileNames]
  | cons x l ih =>
    cases x with
    | file m c =>
      by_cases hm : m = f
      · simp [findFile, fileNames, hm]
      · simp [findFile, fileNames, hm, Ne.symm hm, ih]
    | dir m ch => simpa [findFile, fileNames] using ih

theorem findFile_isSome_of_mem {f : Str} (h : f ∈ fileNames l) : ∃ ct, findFile f l = some ct :=
  Option.ne_none_iff_exists'.1 fun hn => findFile_eq_none_iff.1 hn h

theorem findFile_mem {f ct : Str} (h : findFile f l = some ct) : FsNode.file f ct ∈ l := by
  induction l with
  | nil => simp [findFile] at h
  | cons x l ih =>
    cases x with
    | file m c =>
      simp only [findFile] at h
      split at h
      · rename_i hm; cases h; subst hm; exact List.mem_cons_self ..
      · exact List.mem_cons_of_mem _ (ih h)
    | dir m ch => exact List.mem_cons_of_mem _ (ih h)

theorem findFile_of_mem {f ct : Str} (hn : (fileNames l).Nodup)
    (h : FsNode.file f ct ∈ l) : findFile f l = some ct := by
  induction l with
  | nil => cases h
  | cons x l ih =>
    cases x with
    | file m c =>
      simp only [fileNames, List.nodup_cons] at hn
      simp only [findFile]
      rcases List.mem_cons.1 h with he | h'
      · cases he; simp
      · rw [if_neg (fun e : m = f => hn.1 (e ▸ mem_fileNames.2 ⟨ct, h'⟩))]; exact ih hn.2 h'
    | dir m ch =>
      rcases List.mem_cons.1 h with he | h'
      · cases he
      · exact ih hn h'

theorem findFile_eq_some_iff {f ct : Str} (hn : (fileNames l).Nodup) :
    findFile f l = some ct ↔ FsNode.file f ct ∈ l :=
  ⟨findFile_mem, findFile_of_mem hn⟩

theorem findFile_eq_none {f : Str} {l : List FsNode} (h : f ∉ fileNames l) : findFile f l = none :=
  findFile_eq_none_iff.2 h

/-- the children of the first sub-directory called `n` -/
def findDir (n : Str) : List FsNode → Option (List FsNode)
  | [] => none
  | .file _ _ :: r => findDir n r
  | .dir m ch :: r => if m = n then some ch else findDir n r

theorem findDir_eq_none {n : Str} {l : List FsNode} (h : n ∉ dirNames l) : findDir n l = none := by
  induction l with
  | nil => rfl
  | cons x l ih =>
    cases x with
    | dir m c =>
      simp only [dirNames, List.mem_cons, not_or] at h
      simp only [findDir]
      rw [if_neg (fun e => h.1 e.symm)]
      exact ih h.2
    | file m ch => simp only [dirNames] at h; simpa [findDir] using ih h

/-! ## `strLe`, `sortStrs`

`strLe` is a total order, so a list has one sorted arrangement: `sortStrs_eq_of_sorted`.  `List.mergeSort` is
defined by well-founded recursion and does not reduce under `decide`; insertion sort does (`sortStrs_eq_isort`). -/

theorem strLe_iff {a b : Str} : strLe a b = true ↔ a ≤ b := by
  induction a generalizing b with
  | nil => simp [strLe]
  | cons x xs ih =>
    cases b with
    | nil => simp [strLe]
    | cons y ys =>
      rw [strLe, List.cons_le_cons_iff]
      by_cases hxy : x < y
      · simp [hxy]
      · by_cases hyx : y < x
        · have : x ≠ y := fun e => by subst e; exact hxy hyx
          simp [hxy, hyx, this]
        · have : x = y := Char.le_antisymm (Char.not_lt.mp hyx) (Char.not_lt.mp hxy)
          subst this
          simp [hxy, ih]

theorem strLe_refl (a : Str) : strLe a a = true := strLe_iff.2 (List.le_refl a)

theorem strLe_total (a b : Str) : strLe a b = true ∨ strLe b a = true := by
  simpa only [strLe_iff] using List.le_total a b

theorem strLe_antisymm (a b : Str) (h1 : strLe a b = true) (h2 : strLe b a = true) : a = b :=
  List.le_antisymm (strLe_iff.1 h1) (strLe_iff.1 h2)

theorem strLe_trans (a b d : Str) (h1 : strLe a b = true) (h2 : strLe b d = true) : strLe a d = true :=
  strLe_iff.2 (List.le_trans (strLe_iff.1 h1) (strLe_iff.1 h2))

def insertStr (a : Str) : List Str → List Str
  | [] => [a]
  | b :: bs => if strLe a b then a :: b :: bs else b :: insertStr a bs

def isortStrs : List Str → List Str
  | [] => []
  | a :: as => insertStr a (isortStrs as)

theorem insertStr_perm (a : Str) (l : List Str) : (insertStr a l).Perm (a :: l) := by
  induction l with
  | nil => simp [insertStr]
  | cons b bs ih =>
    simp only [insertStr]
    split
    · exact List.Perm.refl _
    · exact ((List.Perm.cons b ih).trans (List.Perm.swap a b bs))

theorem isortStrs_perm (l : List Str) : (isortStrs l).Perm l := by
  induction l with
  | nil => simp [isortStrs]
  | cons a as ih => exact (insertStr_perm a _).trans (List.Perm.cons a ih)

theorem insertStr_pairwise (a : Str) (l : List Str) (h : l.Pairwise (fun x y => strLe x y = true)) :
    (insertStr a l).Pairwise (fun x y => strLe x y = true) := by
  induction l with
  | nil => simp [insertStr]
  | cons b bs ih =>
    simp only [insertStr]
    rw [List.pairwise_cons] at h
    by_cases hab : strLe a b = true
    · rw [if_pos hab, List.pairwise_cons]
      refine ⟨?_, List.pairwise_cons.2 h⟩
      intro x hx
      rcases List.mem_cons.1 hx with rfl | hx
      · exact hab
      · exact strLe_trans a b x hab (h.1 x hx)
    · rw [if_neg hab, List.pairwise_cons]
      refine ⟨?_, ih h.2⟩
      intro x hx
      rcases List.mem_cons.1 ((insertStr_perm a bs).mem_iff.1 hx) with rfl | hx
      · exact (strLe_total x b).resolve_left hab
      · exact h.1 x hx

theorem isortStrs_pairwise (l : List Str) : (isortStrs l).Pairwise (fun x y => strLe x y = true) := by
  induction l with
  | nil => simp [isortStrs]
  | cons a as ih => exact insertStr_pairwise a _ ih

theorem mem_sortStrs {l : List Str} {x : Str} : x ∈ sortStrs l ↔ x ∈ l :=
  (List.mergeSort_perm l strLe).mem_iff

theorem sortStrs_perm (l : List Str) : (sortStrs l).Perm l := List.mergeSort_perm l strLe

theorem sortStrs_sorted (l : List Str) : (sortStrs l).Pairwise (fun a b => strLe a b = true) :=
  List.pairwise_mergeSort (fun a b c => strLe_trans a b c) (fun a b => by simpa using strLe_total a b) l

theorem sortStrs_eq_of_sorted {l l' : List Str} (hp : l.Perm l') (hs : l'.Pairwise (fun a b => strLe a b = true)) :
    sortStrs l = l' :=
  List.Perm.eq_of_pairwise (le := fun a b => strLe a b = true) (fun a b _ _ h1 h2 => strLe_antisymm a b h1 h2)
    (sortStrs_sorted l) hs ((sortStrs_perm l).trans hp)

theorem sortStrs_eq_of_perm {l₁ l₂ : List Str} (h : l₁.Perm l₂) : sortStrs l₁ = sortStrs l₂ :=
  sortStrs_eq_of_sorted (h.trans (sortStrs_perm l₂).symm) (sortStrs_sorted l₂)

theorem sortStrs_eq_isort (l : List Str) : sortStrs l = isortStrs l :=
  sortStrs_eq_of_sorted (isortStrs_perm l).symm (isortStrs_pairwise l)

/-! ## `RunResult.app` -/

theorem RunResult.ext' {a b : RunResult} (h1 : a.writes = b.writes) (h2 : a.stdout = b.stdout)
    (h3 : a.error = b.error) : a = b := by
  cases a; cases b; simp_all

theorem RunResult.app_of_error (h : r.error.isSome) (d : RunResult) : r.app d = r := by
  simp [RunResult.app, h]

theorem RunResult.app_of_ok (h : r.error = none) (d : RunResult) :
    r.app d = { writes := r.writes ++ d.writes, stdout := r.stdout ++ d.stdout, error := d.error } := by
  simp [RunResult.app, h]

theorem RunResult.app_empty (r : RunResult) : r.app {} = r := by
  cases h : r.error with
  | some e => exact app_of_error (by rw [h]; rfl) _
  | none => exact (app_of_ok h _).trans (ext' (List.append_nil _) (List.append_nil _) h.symm)

theorem RunResult.empty_app (d : RunResult) : RunResult.app {} d = d := by
  unfold RunResult.app
  simp

theorem RunResult.app_assoc (a b d : RunResult) : (a.app b).app d = a.app (b.app d) := by
  unfold RunResult.app
  by_cases ha : a.error.isSome <;> by_cases hb : b.error.isSome <;> simp [ha, hb, List.append_assoc]

/-- sequential composition of run results: `s` is what happens after `r`, unless `r` already failed -/
def RunResult.seq (r s : RunResult) : RunResult :=
  if r.error.isSome then r else ⟨r.writes ++ s.writes, r.stdout ++ s.stdout, s.error⟩

theorem RunResult.seq_eq_app (r s : RunResult) : r.seq s = r.app s := rfl

/-! ## the flattened walk -/

theorem emitPage_of_error {pfx : Option Str} {name content : Str}
    (h : r.error.isSome) : emitPage c pfx rel name content r = r := by
  simp [emitPage, h]

theorem emitPage_app (pfx : Option Str) (name content : Str) (r : RunResult) :
    emitPage c pfx rel name content r = r.app (emitPage c pfx rel name content {}) := by
  by_cases h : r.error.isSome
  · rw [emitPage_of_error h, RunResult.app_of_error h]
  · have h' : r.error = none := by simpa using h
    rw [RunResult.app_of_ok h']
    unfold emitPage
    simp only [h', Option.isSome_none, Bool.false_eq_true, if_false]
    cases page c pfx (joinWith ['/'] (rel ++ [name])) content with
    | error e => simp
    | ok t => by_cases h3 : c.toStdout = true <;> simp [h3, List.append_assoc]

/-- an item counts in the present mode: index pages are not even built in stdout mode -/
def WItem.active (c : WalkCfg) (it : WItem) : Bool := !c.toStdout || it.isPage

theorem WItem.active_iff : it.active c = true ↔ c.toStdout = false ∨ it.isPage = true := by
  simp [WItem.active]

/-- what one item adds to an empty result -/
def WItem.out (c : WalkCfg) (pfx : Str) (it : WItem) : RunResult :=
  if it.active c then
    match it.text c pfx with
    | .error e => { error := some e }
    | .ok t => if c.toStdout then { stdout := t ++ ['\n', '\n'] } else { writes := [⟨it.path, t⟩] }
  else {}

/-- generate one item on top of the run `r`: nothing happens once `r` carries an error -/
def emitItem (c : WalkCfg) (pfx : Str) (it : WItem) (r : RunResult) : RunResult := r.app (it.out c pfx)

def runItems (c : WalkCfg) (pfx : Str) (items : List WItem) (r : RunResult) : RunResult :=
  items.foldl (fun r it => emitItem c pfx it r) r

theorem emitItem_page (rel : List Str) (name content : Str) (r : RunResult) :
    emitItem c pfx (.page rel name content) r = emitPage c (some pfx) rel name content r := by
  rw [emitPage_app, emitItem]
  congr 1
  simp only [WItem.out, WItem.active, WItem.isPage, Bool.or_true, if_true, emitPage, WItem.text, WItem.path]
  cases page c (some pfx) (joinWith ['/'] (rel ++ [name])) content <;> simp

theorem emitItem_index (hr : r.error = none) (rel subs files : List Str) :
    emitItem c pfx (.index rel subs files) r =
      if c.toStdout then r else
      match indexPage c pfx rel subs files with
      | .error e => { r with error := some e }
      | .ok text => { r with writes := r.writes ++ [⟨rel ++ [lit "index.rst"], text⟩] } := by
  rw [emitItem, RunResult.app_of_ok hr]
  simp only [WItem.out, WItem.active, WItem.isPage, Bool.or_false, WItem.text, WItem.path]
  by_cases h : c.toStdout = true
  · simp [h, ← hr]
  · simp only [h]
    cases indexPage c pfx rel subs files <;> simp [hr]

theorem emitItem_of_error (h : r.error.isSome) : emitItem c pfx it r = r :=
  RunResult.app_of_error h _

theorem emitItem_app (it : WItem) (r : RunResult) :
    emitItem c pfx it r = r.app (emitItem c pfx it {}) := by
  rw [emitItem, emitItem, RunResult.empty_app]

theorem runItems_nil (r : RunResult) : runItems c pfx [] r = r := rfl

theorem runItems_cons (it : WItem) (items : List WItem) (r : RunResult) :
    runItems c pfx (it :: items) r = runItems c pfx items (emitItem c pfx it r) := rfl

theorem runItems_append (a b : List WItem) (r : RunResult) :
    runItems c pfx (a ++ b) r = runItems c pfx b (runItems c pfx a r) := by
  simp [runItems, List.foldl_append]

theorem runItems_of_error (h : r.error.isSome) :
    runItems c pfx items r = r := by
  induction items with
  | nil => rfl
  | cons it items ih => rw [runItems_cons, emitItem_of_error h, ih]

theorem runItems_app (items : List WItem) (r : RunResult) :
    runItems c pfx items r = r.app (runItems c pfx items {}) := by
  induction items generalizing r with
  | nil => simp [runItems_nil, RunResult.app_empty]
  | cons it items ih =>
    rw [runItems_cons, runItems_cons, ih, ih (emitItem c pfx it {}), emitItem_app, RunResult.app_assoc]

/-- what an item that renders adds to standard output (stdout mode) -/
def WItem.printed (c : WalkCfg) (pfx : Str) (it : WItem) : Str :=
  if it.isPage then it.textD c pfx ++ ['\n', '\n'] else []

/-- the item is generated without error (an index in stdout mode is not generated at all) -/
def WItem.Ok (c : WalkCfg) (pfx : Str) (it : WItem) : Prop := it.active c = true → (it.text c pfx).isOk = true

/-- the outcome of generating `pre` without error on top of `r` -/
def ranOk (c : WalkCfg) (pfx : Str) (pre : List WItem) (r : RunResult) (e : Option Err) : RunResult :=
  { writes := r.writes ++ (if c.toStdout then [] else pre.map (WItem.write c pfx)),
    stdout := r.stdout ++ (if c.toStdout then (pre.map (WItem.printed c pfx)).flatten else []),
    error := e }

theorem isOk_iff {x : Except Err Str} : x.isOk = true ↔ x = .ok (okText x) := by
  cases x <;> simp [Except.isOk, Except.toBool, okText]

theorem WItem.out_ok (hok : it.Ok c pfx) :
    it.out c pfx = { writes := if c.toStdout then [] else [it.write c pfx],
                      stdout := if c.toStdout then it.printed c pfx else [], error := none } := by
  unfold WItem.out
  by_cases ha : it.active c = true
  · rw [if_pos ha, isOk_iff.1 (hok ha)]
    by_cases h1 : c.toStdout = true
    · simp_all [WItem.active, WItem.printed, WItem.textD]
    · simp [h1, WItem.write, WItem.textD]
  · simp_all [WItem.active, WItem.printed]

theorem emitItem_ok (hr : r.error = none) (hok : it.Ok c pfx) :
    emitItem c pfx it r =
      { writes := r.writes ++ (if c.toStdout then [] else [it.write c pfx]),
        stdout := r.stdout ++ (if c.toStdout then it.printed c pfx else []),
        error := none } := by
  rw [emitItem, WItem.out_ok hok, RunResult.app_of_ok hr]

theorem runItems_ok (hr : r.error = none) (hok : ∀ it ∈ items, it.Ok c pfx) :
    runItems c pfx items r = ranOk c pfx items r none := by
  induction items generalizing r with
  | nil =>
    apply RunResult.ext' <;> simp [runItems_nil, ranOk, hr]
  | cons it items ih =>
    rw [runItems_cons, emitItem_ok hr (hok it (by simp)), ih rfl (fun x hx => hok x (by simp [hx]))]
    by_cases h1 : c.toStdout = true <;> simp [ranOk, h1, List.append_assoc]

theorem emitItem_err {e : Err} (hr : r.error = none)
    (hact : it.active c = true) (he : it.text c pfx = .error e) :
    emitItem c pfx it r = { r with error := some e } := by
  rw [emitItem, WItem.out, if_pos hact, he, RunResult.app_of_ok hr]
  simp

theorem runItems_err {pre post : List WItem} {e : Err} (hr : r.error = none) (hok : ∀ x ∈ pre, x.Ok c pfx)
    (hact : it.active c = true) (he : it.text c pfx = .error e) :
    runItems c pfx (pre ++ it :: post) r = ranOk c pfx pre r (some e) := by
  rw [runItems_append, runItems_cons, runItems_ok hr hok, emitItem_err rfl hact he, runItems_of_error (by simp)]
  rfl

theorem all_or_first_not {α : Type} (p : α → Prop) (l : List α) :
    (∀ x ∈ l, p x) ∨ ∃ pre x post, l = pre ++ x :: post ∧ (∀ y ∈ pre, p y) ∧ ¬ p x := by
  induction l with
  | nil => exact .inl (by simp)
  | cons a l ih =>
    by_cases ha : p a
    · rcases ih with h | ⟨pre, x, post, rfl, hpre, hx⟩
      · exact .inl (by simpa [ha] using h)
      · exact .inr ⟨a :: pre, x, post, rfl, by simpa [ha] using hpre, hx⟩
    · exact .inr ⟨[], a, l, rfl, by simp, ha⟩

variable (c pfx) in
theorem runItems_cases (items : List WItem) (hr : r.error = none) :
    ((∀ it ∈ items, it.Ok c pfx) ∧ runItems c pfx items r = ranOk c pfx items r none) ∨
    ∃ pre it post e, items = pre ++ it :: post ∧ (∀ x ∈ pre, x.Ok c pfx) ∧ it.active c = true ∧
      it.text c pfx = .error e ∧ runItems c pfx items r = ranOk c pfx pre r (some e) := by
  rcases all_or_first_not (WItem.Ok c pfx) items with h | ⟨pre, it, post, rfl, hpre, hit⟩
  · exact .inl ⟨h, runItems_ok hr h⟩
  · obtain ⟨hact, hnok⟩ := Classical.not_imp.1 hit
    cases he : it.text c pfx with
    | ok t => exact absurd (by simp [he, Except.isOk, Except.toBool]) hnok
    | error e => exact .inr ⟨pre, it, post, e, rfl, hpre, hact, he, runItems_err hr hpre hact he⟩

theorem runItems_error_none (hr : r.error = none) :
    (runItems c pfx items r).error = none ↔ ∀ it ∈ items, it.Ok c pfx := by
  rcases runItems_cases c pfx items hr with ⟨h, he⟩ | ⟨pre, it, post, e, rfl, _, hact, hte, he⟩
  · simpa [he, ranOk] using h
  · rw [he]
    refine ⟨fun h => by simp [ranOk] at h, fun h => ?_⟩
    have := h it (by simp) hact
    simp [hte, Except.isOk, Except.toBool] at this

variable (c pfx) in
theorem runItems_prefix (items : List WItem) (r : RunResult) :
    ∃ pre, pre <+: items ∧ (∀ x ∈ pre, x.Ok c pfx) ∧
      (runItems c pfx items r).writes = (ranOk c pfx pre r none).writes ∧
      (runItems c pfx items r).stdout = (ranOk c pfx pre r none).stdout ∧
      (r.error = none → (runItems c pfx items r).error = none → pre = items) := by
  by_cases hr : r.error = none
  case neg =>
    rw [runItems_of_error (Option.isSome_iff_ne_none.2 hr)]
    exact ⟨[], List.nil_prefix, nofun, by simp [ranOk], by simp [ranOk], fun h => absurd h hr⟩
  rcases runItems_cases c pfx items hr with ⟨h, he⟩ | ⟨pre, it, post, e, rfl, hpre, _, _, he⟩
  · exact ⟨items, List.prefix_refl _, h, by rw [he], by rw [he], fun _ _ => rfl⟩
  · exact ⟨pre, List.prefix_append _ _, hpre, by rw [he]; rfl, by rw [he]; rfl, fun _ h => by simp [he, ranOk] at h⟩

theorem runItems_perm {l₁ l₂ : List WItem} (h : l₁.Perm l₂) :
    ((runItems c pfx l₁ r).error = none ↔ (runItems c pfx l₂ r).error = none) ∧
    ((runItems c pfx l₁ r).error = none → (runItems c pfx l₁ r).writes.Perm (runItems c pfx l₂ r).writes) := by
  by_cases hr : r.error = none
  case neg =>
    rw [runItems_of_error (Option.isSome_iff_ne_none.2 hr), runItems_of_error (Option.isSome_iff_ne_none.2 hr)]
    exact ⟨.rfl, fun _ => .refl _⟩
  have hiff : (runItems c pfx l₁ r).error = none ↔ (runItems c pfx l₂ r).error = none := by
    simp only [runItems_error_none hr, h.mem_iff]
  refine ⟨hiff, fun h1 => ?_⟩
  rw [runItems_ok hr ((runItems_error_none hr).1 h1), runItems_ok hr ((runItems_error_none hr).1 (hiff.1 h1))]
  refine List.Perm.append_left _ ?_
  split
  · exact .refl _
  · exact h.map _

theorem runItems_writes_of_stdout (h : c.toStdout = true) (items : List WItem)
    (r : RunResult) : (runItems c pfx items r).writes = r.writes := by
  obtain ⟨pre, _, _, hw, _, _⟩ := runItems_prefix c pfx items r
  simp [hw, ranOk, h]

theorem runItems_stdout_of_file (h : c.toStdout = false) (items : List WItem)
    (r : RunResult) : (runItems c pfx items r).stdout = r.stdout := by
  obtain ⟨pre, _, _, _, hs, _⟩ := runItems_prefix c pfx items r
  simp [hs, ranOk, h]

theorem runItems_writes_mem {w : Write}
    (h : w ∈ (runItems c pfx items r).writes) :
    w ∈ r.writes ∨ ∃ it ∈ items, w.path = it.path ∧ it.text c pfx = .ok w.content := by
  obtain ⟨pre, hpre, hok, hw, _, _⟩ := runItems_prefix c pfx items r
  rw [hw] at h
  simp only [ranOk, List.mem_append] at h
  rcases h with h | h
  · exact .inl h
  · split at h
    · cases h
    · rename_i ht
      obtain ⟨it, hit, rfl⟩ := List.mem_map.1 h
      exact .inr ⟨it, hpre.subset hit, rfl, isOk_iff.1 (hok it hit (WItem.active_iff.2 (.inl (Bool.eq_false_iff.2 ht))))⟩

theorem emitFiles_eq (listing : List FsNode) (names : List Str)
    (r : RunResult) :
    emitFiles c (some pfx) rel listing names r = runItems c pfx (dirPages rel listing names) r := by
  induction names generalizing r with
  | nil => rfl
  | cons f fs ih =>
    rw [emitFiles, ih]
    by_cases h : isCMakeName f = true
    · cases hf : findFile f listing with
      | none => simp [dirPages, h, hf]
      | some content => simp [dirPages, h, hf, runItems_cons, emitItem_page]
    · simp [dirPages, h]

/-! ## the layout exactly as the model walks it -/

/-- the model's test "walk into the sub-directory named `n`", by name lookup in the listing -/
def keepDir (c : WalkCfg) (excl : List Str → Bool → Bool) (rel : List Str) (listing : List FsNode) (n : Str) : Bool :=
  !excl (rel ++ [n]) true &&
    (!c.autoExclude || (match listing.find? (fun x => match x with | .dir m _ => m == n | _ => false) with
                         | some (.dir _ ch) => hasCMake excl (rel ++ [n]) ch
                         | _ => false))

/-- a directory's own items when its index lists the sub-directories `subs`: `dirItems` is the case
    `subs = survivingDirs …`, the model's (`dirItemsK`) selects them by name lookup -/
def dirItemsWith (c : WalkCfg) (excl : List Str → Bool → Bool) (rel : List Str) (listing : List FsNode)
    (subs : List Str) : List WItem :=
  if c.autoExclude && !hasCMake excl rel listing then []
  else .index rel (sortStrs subs) (sortStrs (keptFiles excl rel listing))
       :: dirPages rel listing (sortStrs (keptFiles excl rel listing))

def dirItemsK (c : WalkCfg) (excl : List Str → Bool → Bool) (rel : List Str) (listing : List FsNode) : List WItem :=
  dirItemsWith c excl rel listing ((dirNames listing).filter (keepDir c excl rel listing))

theorem hasCMake_eq (listing : List FsNode) :
    hasCMake excl rel listing = (keptFiles excl rel listing).any isLowerCMakeName := by
  simp only [hasCMake, keptFiles, List.any_filter]
  congr 1
  funext f
  exact Bool.and_comm _ _

mutual
def nodeLayoutK (c : WalkCfg) (excl : List Str → Bool → Bool) (rel : List Str) (keep : Str → Bool) : FsNode → List WItem
  | .file _ _ => []
  | .dir n ch =>
    if keep n then
      dirItemsK c excl (rel ++ [n]) ch ++
        (if c.recursive then subsLayoutK c excl (rel ++ [n]) (keepDir c excl (rel ++ [n]) ch) ch else [])
    else []
def subsLayoutK (c : WalkCfg) (excl : List Str → Bool → Bool) (rel : List Str) (keep : Str → Bool) : List FsNode → List WItem
  | [] => []
  | x :: xs => nodeLayoutK c excl rel keep x ++ subsLayoutK c excl rel keep xs
end

def layoutK (c : WalkCfg) (excl : List Str → Bool → Bool) (rel : List Str) (listing : List FsNode) : List WItem :=
  dirItemsK c excl rel listing ++
    (if c.recursive then subsLayoutK c excl rel (keepDir c excl rel listing) listing else [])

theorem nodeLayoutK_dir (keep : Str → Bool)
    (n : Str) (ch : List FsNode) :
    nodeLayoutK c excl rel keep (.dir n ch) = if keep n then layoutK c excl (rel ++ [n]) ch else [] := by
  simp [nodeLayoutK, layoutK]

theorem walkDir_of_error (h : r.error.isSome) : walkDir c excl pfx rel l r = r := by
  rw [walkDir, if_pos h]

theorem error_none_of_walkDir (h : (walkDir c excl pfx rel l r).error = none) : r.error = none := by
  refine Classical.byContradiction fun hne => hne ?_
  rwa [walkDir_of_error (Option.isSome_iff_ne_none.2 hne)] at h

/-- one iteration of the `os.walk` loop: the directory's own items, then (with `-r`) its sub-directories -/
theorem walkDir_step (l : List FsNode) (hr : r.error = none) :
    walkDir c excl pfx rel l r =
      (if c.recursive then walkSubs c excl pfx rel (keepDir c excl rel l) l else id)
        (runItems c pfx (dirItemsK c excl rel l) r) := by
  rw [walkDir, if_neg (by simp [hr]), dirItemsK, dirItemsWith, hasCMake_eq]
  by_cases ha : (c.autoExclude && !(keptFiles excl rel l).any isLowerCMakeName) = true
  -- on the model's side the test is spelt without `keptFiles`: `if_pos`/`if_neg` are applied as terms, not rewritten
  · rw [if_pos ha]
    exact (if_pos ha).trans (by cases c.recursive <;> rfl)
  · rw [if_neg ha, runItems_cons, ← emitFiles_eq, emitItem_index hr]
    exact (if_neg ha).trans (by cases c.recursive <;> rfl)

theorem walkDir_eq_aux (l : List FsNode) (r : RunResult)
    (h : ∀ r, walkSubs c excl pfx rel (keepDir c excl rel l) l r =
      runItems c pfx (subsLayoutK c excl rel (keepDir c excl rel l) l) r) :
    walkDir c excl pfx rel l r = runItems c pfx (layoutK c excl rel l) r := by
  by_cases hr : r.error.isSome = true
  · rw [walkDir_of_error hr, runItems_of_error hr]
  · rw [walkDir_step l (by simpa using hr), layoutK, runItems_append]
    split
    · rw [h]
    · rfl

theorem walkSubs_eq (l : List FsNode) :
    ∀ (rel : List Str) (keep : Str → Bool) (r : RunResult),
      walkSubs c excl pfx rel keep l r = runItems c pfx (subsLayoutK c excl rel keep l) r := by
  induction l using FsNode.list_induction with
  | nil =>
    intro rel keep r
    rw [walkSubs, subsLayoutK]
    rfl
  | file _ _ rest ih =>
    intro rel keep r
    rw [walkSubs, ih, subsLayoutK, nodeLayoutK, List.nil_append]
  | dir n ch rest ihc ih =>
    intro rel keep r
    rw [walkSubs, ih, subsLayoutK, runItems_append, nodeLayoutK_dir]
    congr 1
    split
    · exact walkDir_eq_aux ch r (ihc _ _)
    · rfl

theorem walkDir_eq (listing : List FsNode) (r : RunResult) :
    walkDir c excl pfx rel listing r = runItems c pfx (layoutK c excl rel listing) r :=
  walkDir_eq_aux listing r (walkSubs_eq listing rel _)

theorem dirNamesDistinct_iff (l : List Str) : dirNamesDistinct l = true ↔ l.Nodup := by
  induction l with
  | nil => simp [dirNamesDistinct]
  | cons n ns ih => simp [dirNamesDistinct, ih]

theorem treeOk_iff (listing : List FsNode) :
    treeOk listing = true ↔ (dirNames listing).Nodup ∧ listOk listing = true := by
  simp [treeOk, dirNamesDistinct_iff]

theorem nodeOk_dir (n : Str) (ch : List FsNode) : nodeOk (.dir n ch) = treeOk ch := by
  simp [nodeOk, treeOk]

theorem listOk_iff : listOk l = true ↔ ∀ n ch, FsNode.dir n ch ∈ l → treeOk ch = true := by
  induction l with
  | nil => simp [listOk]
  | cons x l ih =>
    cases x with
    | file m ct => simp [listOk, nodeOk, ih]
    | dir m ch' =>
      simp only [listOk, nodeOk_dir, ih, Bool.and_eq_true, List.mem_cons, FsNode.dir.injEq]
      exact ⟨fun ⟨h1, h2⟩ n ch hm => hm.elim (fun e => e.2 ▸ h1) (h2 n ch),
        fun h => ⟨h m ch' (.inl ⟨rfl, rfl⟩), fun n ch hm => h n ch (.inr hm)⟩⟩

theorem treeOk_child {listing : List FsNode} (h : treeOk listing = true) {n : Str} {ch : List FsNode}
    (hx : FsNode.dir n ch ∈ listing) : treeOk ch = true :=
  listOk_iff.1 ((treeOk_iff listing).1 h).2 n ch hx

theorem find_dir_of_nodup (hnd : (dirNames l).Nodup) {n : Str} {ch : List FsNode}
    (hx : FsNode.dir n ch ∈ l) :
    l.find? (fun x => match x with | .dir m _ => m == n | _ => false) = some (.dir n ch) := by
  induction l with
  | nil => simp at hx
  | cons y ys ih =>
    cases y with
    | file m ct =>
      simp only [List.mem_cons, reduceCtorEq, false_or] at hx
      simpa [List.find?] using ih hnd hx
    | dir m ch' =>
      simp only [dirNames, List.nodup_cons] at hnd
      rcases List.mem_cons.1 hx with heq | hx
      · cases heq
        simp [List.find?]
      · have hne : (m == n) = false := beq_false_of_ne fun e => hnd.1 (e ▸ mem_dirNames_iff.2 ⟨ch, hx⟩)
        simp only [List.find?, hne]
        exact ih hnd.2 hx

theorem keepDir_eq (hnd : (dirNames listing).Nodup) {n : Str} {ch : List FsNode} (hx : FsNode.dir n ch ∈ listing) :
    keepDir c excl rel listing n = survives c excl rel n ch := by
  simp only [keepDir, survives, find_dir_of_nodup hnd hx]

theorem filter_keep_eq (keep : Str → Bool) :
    ∀ (l : List FsNode), (∀ n ch, FsNode.dir n ch ∈ l → keep n = survives c excl rel n ch) →
      (dirNames l).filter keep = survivingDirs c excl rel l
  | [], _ => rfl
  | .file _ _ :: rest, h => by
    simp only [dirNames, survivingDirs]
    exact filter_keep_eq keep rest (fun n ch hx => h n ch (List.mem_cons_of_mem _ hx))
  | .dir n ch :: rest, h => by
    simp only [dirNames, survivingDirs, List.filter_cons, h n ch (List.mem_cons_self ..)]
    rw [filter_keep_eq keep rest (fun n ch hx => h n ch (List.mem_cons_of_mem _ hx))]

theorem dirItemsK_eq (hnd : (dirNames listing).Nodup) : dirItemsK c excl rel listing = dirItems c excl rel listing := by
  rw [dirItemsK, filter_keep_eq _ listing (fun n ch hx => keepDir_eq hnd hx)]
  rfl

theorem nodeLayout_dir (n : Str) (ch : List FsNode) :
    nodeLayout c excl rel (.dir n ch) = if survives c excl rel n ch then layoutOf c excl (rel ++ [n]) ch else [] := by
  simp [nodeLayout, layoutOf]

theorem subsLayout_file (n ct : Str) (rest : List FsNode) :
    subsLayout c excl rel (.file n ct :: rest) = subsLayout c excl rel rest := by
  simp [subsLayout, nodeLayout]

theorem subsLayout_dir (n : Str) (ch rest : List FsNode) :
    subsLayout c excl rel (.dir n ch :: rest) =
      (if survives c excl rel n ch then layoutOf c excl (rel ++ [n]) ch else []) ++ subsLayout c excl rel rest := by
  rw [subsLayout, nodeLayout_dir]

theorem subsLayoutK_eq (l : List FsNode) :
    ∀ (rel : List Str) (keep : Str → Bool), listOk l = true →
      (∀ n ch, FsNode.dir n ch ∈ l → keep n = survives c excl rel n ch) →
      subsLayoutK c excl rel keep l = subsLayout c excl rel l := by
  induction l using FsNode.list_induction with
  | nil => intros; simp [subsLayoutK, subsLayout]
  | file _ _ rest ih =>
    intro rel keep hok h
    simp only [listOk, Bool.and_eq_true] at hok
    rw [subsLayoutK, subsLayout_file, ih rel keep hok.2 (fun n ch hx => h n ch (List.mem_cons_of_mem _ hx))]
    simp [nodeLayoutK]
  | dir n ch rest ihc ih =>
    intro rel keep hok h
    simp only [listOk, Bool.and_eq_true, nodeOk_dir] at hok
    have hch := (treeOk_iff ch).1 hok.1
    rw [subsLayoutK, subsLayout_dir, ih rel keep hok.2 (fun n ch hx => h n ch (List.mem_cons_of_mem _ hx)),
      nodeLayoutK_dir, h n ch (List.mem_cons_self ..)]
    congr 2
    unfold layoutK layoutOf
    rw [dirItemsK_eq hch.1, ihc (rel ++ [n]) _ hch.2 (fun m ch' hx => keepDir_eq hch.1 hx)]

theorem layoutK_eq (hok : treeOk listing = true) : layoutK c excl rel listing = layoutOf c excl rel listing := by
  have h := (treeOk_iff listing).1 hok
  unfold layoutK layoutOf
  rw [dirItemsK_eq h.1, subsLayoutK_eq listing rel _ h.2 (fun m ch' hx => keepDir_eq h.1 hx)]

theorem walkDir_eq_layout (hok : treeOk listing = true) (r : RunResult) :
    walkDir c excl pfx rel listing r = runItems c pfx (layoutOf c excl rel listing) r := by
  rw [walkDir_eq, layoutK_eq hok]

theorem walkDir_error_none (htree : treeOk listing = true) (hr : r.error = none)
    (hok : ∀ it ∈ layoutOf c excl rel listing, it.Ok c pfx) :
    (walkDir c excl pfx rel listing r).error = none := by
  rw [walkDir_eq_layout htree, runItems_ok hr hok, ranOk]

theorem WItem.page?_eq_some {p : List Str × Str × Str} : it.page? = some p ↔ it = .page p.1 p.2.1 p.2.2 := by
  cases it <;> simp [WItem.page?, Prod.ext_iff]

theorem WItem.index?_eq_some {d : List Str × List Str × List Str} :
    it.index? = some d ↔ it = .index d.1 d.2.1 d.2.2 := by
  cases it <;> simp [WItem.index?, Prod.ext_iff]

theorem mem_filterMap_page? {p : List Str × Str × Str} :
    p ∈ items.filterMap WItem.page? ↔ WItem.page p.1 p.2.1 p.2.2 ∈ items := by
  simp only [List.mem_filterMap, WItem.page?_eq_some, exists_eq_right]

theorem mem_filterMap_index? {d : List Str × List Str × List Str} :
    d ∈ items.filterMap WItem.index? ↔ WItem.index d.1 d.2.1 d.2.2 ∈ items := by
  simp only [List.mem_filterMap, WItem.index?_eq_some, exists_eq_right]

theorem mem_pagesOf {p : List Str × Str × Str} :
    p ∈ pagesOf c excl rel listing ↔ WItem.page p.1 p.2.1 p.2.2 ∈ layoutOf c excl rel listing :=
  mem_filterMap_page?

theorem mem_indexesOf {d : List Str × List Str × List Str} :
    d ∈ indexesOf c excl rel listing ↔ WItem.index d.1 d.2.1 d.2.2 ∈ layoutOf c excl rel listing :=
  mem_filterMap_index?

theorem indexPage_isOk (hh : c.headers ≠ []) (rel subdirs files : List Str) :
    (indexPage c pfx rel subdirs files).isOk = true := by
  unfold indexPage
  cases h : c.headers with
  | nil => exact absurd h hh
  | cons hc _ => rfl

theorem indexPage_eq {hc : Str} {hs : List Str} (hh : c.headers = hc :: hs)
    (rel subdirs files : List Str) :
    indexPage c pfx rel subdirs files = .ok (indexDoc c pfx hc rel subdirs files).render := by
  unfold indexPage
  rw [hh]
  rfl

/-- every item is generated without error if the pages render and the indexes are either not generated (stdout mode)
    or have a heading character -/
theorem items_ok (hi : c.toStdout = true ∨ c.headers ≠ [])
    (hp : ∀ p ∈ items.filterMap WItem.page?, (page c (some pfx) (relPath p) p.2.2).isOk = true) :
    ∀ it ∈ items, it.Ok c pfx := by
  intro it hit hact
  cases it with
  | index rel subs files =>
    rcases hi with hs | hh
    · simp [WItem.active, hs, WItem.isPage] at hact
    · exact indexPage_isOk hh rel subs files
  | page rel name content => exact hp (rel, name, content) (mem_filterMap_page?.2 hit)

theorem walkDir_file_ok
    (hf : c.toStdout = false) (htree : treeOk listing = true) (hr : r.error = none) (hh : c.headers ≠ [])
    (hp : ∀ p ∈ pagesOf c excl rel listing, (page c (some pfx) (relPath p) p.2.2).isOk = true) :
    walkDir c excl pfx rel listing r =
      { writes := r.writes ++ (layoutOf c excl rel listing).map (WItem.write c pfx), stdout := r.stdout,
        error := none } := by
  rw [walkDir_eq_layout htree, runItems_ok hr (items_ok (.inr hh) hp)]
  simp [ranOk, hf]

theorem map_filter_eq_filterMap {α β} (p : α → Bool) (f : α → β) (l : List α) :
    (l.filter p).map f = l.filterMap (fun x => if p x then some (f x) else none) := by
  rw [← List.filterMap_eq_map', List.filterMap_filter]

theorem printed_flatten (items : List WItem) :
    (items.map (WItem.printed c pfx)).flatten =
      ((items.filterMap WItem.page?).map (fun p => pageText c pfx p ++ ['\n', '\n'])).flatten := by
  induction items with
  | nil => rfl
  | cons it items ih =>
    rw [List.map_cons, List.flatten_cons, ih]
    cases it <;> rfl

theorem page_writes (items : List WItem) :
    (items.filter WItem.isPage).map (WItem.write c pfx) =
      (items.filterMap WItem.page?).map (fun p => (⟨pagePath p, pageText c pfx p⟩ : Write)) := by
  rw [map_filter_eq_filterMap, List.map_filterMap]
  congr 1
  funext it
  cases it <;> rfl

theorem index_writes (items : List WItem) :
    (items.filter (fun it => !it.isPage)).map (WItem.write c pfx) =
      (items.filterMap WItem.index?).map
        (fun d => (⟨indexPath d, okText (indexPage c pfx d.1 d.2.1 d.2.2)⟩ : Write)) := by
  rw [map_filter_eq_filterMap, List.map_filterMap]
  congr 1
  funext it
  cases it <;> rfl

theorem layout_paths_perm (items : List WItem) :
    (items.map WItem.path).Perm
      ((items.filterMap WItem.index?).map indexPath ++ (items.filterMap WItem.page?).map pagePath) := by
  refine ((List.filter_append_perm (fun it => !it.isPage) items).map WItem.path).symm.trans (.of_eq ?_)
  rw [List.map_append, map_filter_eq_filterMap, map_filter_eq_filterMap, List.map_filterMap,
    List.map_filterMap]
  congr 2 <;> funext it <;> cases it <;> rfl

/-! ## the accumulator is only appended to -/

theorem walkDir_seq (c : WalkCfg) (excl : List Str → Bool → Bool) (pfx : Str) (rel : List Str)
    (listing : List FsNode) (r : RunResult) :
    walkDir c excl pfx rel listing r = r.seq (walkDir c excl pfx rel listing {}) := by
  rw [walkDir_eq, walkDir_eq listing {}, runItems_app]
  rfl

theorem walkSubs_seq (c : WalkCfg) (excl : List Str → Bool → Bool) (pfx : Str) (rel : List Str) (keep : Str → Bool)
    (listing : List FsNode) (r : RunResult) :
    walkSubs c excl pfx rel keep listing r = r.seq (walkSubs c excl pfx rel keep listing {}) := by
  rw [walkSubs_eq, walkSubs_eq listing rel keep {}, runItems_app]
  rfl

theorem emitFiles_cons (pfx : Option Str) (listing : List FsNode) (f : Str)
    (fs : List Str) (r : RunResult) :
    emitFiles c pfx rel listing (f :: fs) r =
      emitFiles c pfx rel listing fs (emitFiles c pfx rel listing [f] r) := by
  simp only [emitFiles]

theorem emitFiles_one_app (pfx : Option Str) (listing : List FsNode) (f : Str)
    (r : RunResult) :
    emitFiles c pfx rel listing [f] r = r.app (emitFiles c pfx rel listing [f] {}) := by
  simp only [emitFiles]
  split
  · split
    · exact emitPage_app ..
    · exact (RunResult.app_empty r).symm
  · exact (RunResult.app_empty r).symm

theorem emitFiles_app (pfx : Option Str) (listing : List FsNode)
    (names : List Str) (r : RunResult) :
    emitFiles c pfx rel listing names r = r.app (emitFiles c pfx rel listing names {}) := by
  induction names generalizing r with
  | nil => simp [emitFiles, RunResult.app_empty]
  | cons f fs ih =>
    rw [emitFiles_cons, emitFiles_cons pfx listing f fs {}, ih, emitFiles_one_app,
      ih (emitFiles c pfx rel listing [f] {}), RunResult.app_assoc]

theorem emitFiles_of_error {c : WalkCfg} {pfx : Option Str} {rel : List Str} {listing : List FsNode}
    {names : List Str} {r : RunResult} (h : r.error.isSome) : emitFiles c pfx rel listing names r = r := by
  rw [emitFiles_app, RunResult.app_of_error h]

theorem document_app (exclRoot : Bool) (inp : Input) (r : RunResult) :
    (document c excl exclRoot inp r).1 = r.app (document c excl exclRoot inp {}).1 := by
  unfold document
  cases exclRoot
  · cases inp with
    | missing n => simp [RunResult.app_empty]
    | special n => simp [RunResult.app_empty]
    | file name content => simpa using emitPage_app ..
    | dir name listing => exact walkDir_seq ..
  · simp [RunResult.app_empty]

theorem document_exit (exclRoot : Bool) (inp : Input) (r : RunResult) :
    (document c excl exclRoot inp r).2 = (document c excl exclRoot inp {}).2 := by
  unfold document
  cases exclRoot
  · cases inp <;> rfl
  · rfl

theorem document_of_error {exclRoot : Bool} {inp : Input} (h : r.error.isSome) : (document c excl exclRoot inp r).1 = r := by
  rw [document_app, RunResult.app_of_error h]

/-! ## `runMain`: one input after the other -/

theorem runMain_of_error {is : List MainInput} {e : Err} (he : r.error = some e) :
    runMain c is r = (r, .raised e) := by
  cases is <;> simp only [runMain, he]

theorem runMain_status_ok {is : List MainInput}
    (h : (runMain c is r).2 = .ok) : r.error = none := by
  cases he : r.error with
  | none => rfl
  | some e => rw [runMain_of_error he] at h; cases h

theorem runMain_cons {i : MainInput} {is : List MainInput}
    (hr : r.error = none) :
    runMain c (i :: is) r =
      if (document c i.excl i.exclRoot i.inp r).2 then ((document c i.excl i.exclRoot i.inp r).1, .exitMinus1)
      else runMain c is (document c i.excl i.exclRoot i.inp r).1 := by
  rw [runMain]
  simp only [hr]

/-- a run that ends normally went through its first input, which added what it generates alone -/
theorem runMain_cons_of_ok {i : MainInput} {is : List MainInput}
    (hok : (runMain c (i :: is) r).2 = .ok) :
    r.error = none ∧ (document c i.excl i.exclRoot i.inp {}).2 = false ∧
      runMain c (i :: is) r = runMain c is (r.app (aloneOut c i)) := by
  have hr := runMain_status_ok hok
  rw [runMain_cons hr] at hok ⊢
  split at hok
  · cases hok
  · rename_i hex
    rw [if_neg hex, document_app]
    rw [document_exit] at hex
    exact ⟨hr, by simpa using hex, rfl⟩

/-! ## membership in the layout; `Processed` -/

theorem mem_dirPages {names : List Str} :
    it ∈ dirPages rel listing names ↔
      ∃ f ct, it = .page rel f ct ∧ f ∈ names ∧ isCMakeName f = true ∧ findFile f listing = some ct := by
  simp only [dirPages, List.mem_filterMap, Option.ite_none_right_eq_some, Option.map_eq_some_iff]
  exact ⟨fun ⟨f, hf, hc, ct, hct, h⟩ => ⟨f, ct, h.symm, hf, hc, hct⟩,
    fun ⟨f, ct, h, hf, hc, hct⟩ => ⟨f, hf, hc, ct, hct, h.symm⟩⟩

theorem mem_survivingNodes {n : Str}
    {ch l : List FsNode} :
    (n, ch) ∈ survivingNodes c excl rel l ↔ FsNode.dir n ch ∈ l ∧ survives c excl rel n ch = true := by
  induction l with
  | nil => simp [survivingNodes]
  | cons x xs ih =>
    cases x with
    | file m ct => simp [survivingNodes, ih]
    | dir m ch' =>
      by_cases hs : survives c excl rel m ch' = true
      · simp only [survivingNodes, hs, if_true, List.mem_cons, Prod.mk.injEq, FsNode.dir.injEq, ih]
        grind
      · simp only [survivingNodes, hs, Bool.false_eq_true, if_false, List.mem_cons, FsNode.dir.injEq, ih]
        grind

theorem survivingDirs_eq_map (l : List FsNode) :
    survivingDirs c excl rel l = (survivingNodes c excl rel l).map Prod.fst := by
  induction l with
  | nil => rfl
  | cons x xs ih =>
    cases x with
    | file m ct => exact ih
    | dir m ch =>
      simp only [survivingDirs, survivingNodes]
      split
      · rw [List.map_cons, ih]
      · exact ih

theorem mem_survivingDirs {n : Str} :
    n ∈ survivingDirs c excl rel l ↔ ∃ ch, FsNode.dir n ch ∈ l ∧ survives c excl rel n ch = true := by
  simp only [survivingDirs_eq_map, List.mem_map, Prod.exists, mem_survivingNodes]
  exact ⟨fun ⟨_, ch, h, rfl⟩ => ⟨ch, h⟩, fun ⟨ch, h⟩ => ⟨n, ch, h, rfl⟩⟩

theorem subsLayout_eq_flatten (l : List FsNode) :
    subsLayout c excl rel l =
      ((survivingNodes c excl rel l).map (fun p => layoutOf c excl (rel ++ [p.1]) p.2)).flatten := by
  induction l with
  | nil => simp [subsLayout, survivingNodes]
  | cons x xs ih =>
    cases x with
    | file m ct => rw [subsLayout_file, ih]; simp [survivingNodes]
    | dir m ch =>
      rw [subsLayout_dir, ih]
      by_cases hs : survives c excl rel m ch = true <;> simp [survivingNodes, hs]

theorem mem_subsLayout :
    it ∈ subsLayout c excl rel l ↔
      ∃ n ch, FsNode.dir n ch ∈ l ∧ survives c excl rel n ch = true ∧ it ∈ layoutOf c excl (rel ++ [n]) ch := by
  simp only [subsLayout_eq_flatten, List.mem_flatten, List.mem_map, Prod.exists, mem_survivingNodes]
  exact ⟨fun ⟨_, ⟨n, ch, ⟨hm, hs⟩, rfl⟩, hi⟩ => ⟨n, ch, hm, hs, hi⟩,
    fun ⟨n, ch, hm, hs, hi⟩ => ⟨_, ⟨n, ch, ⟨hm, hs⟩, rfl⟩, hi⟩⟩

theorem mem_layoutOf :
    it ∈ layoutOf c excl rel listing ↔
      it ∈ dirItems c excl rel listing ∨
        (c.recursive = true ∧ ∃ n ch, FsNode.dir n ch ∈ listing ∧ survives c excl rel n ch = true ∧
          it ∈ layoutOf c excl (rel ++ [n]) ch) := by
  rw [layoutOf, List.mem_append]
  by_cases hr : c.recursive = true
  · simp only [hr, if_true, true_and, mem_subsLayout]
  · simp [hr]

theorem survivingNodes_congr {c c' : WalkCfg} (ha : c.autoExclude = c'.autoExclude) (l : List FsNode) :
    survivingNodes c excl rel l = survivingNodes c' excl rel l := by
  induction l with
  | nil => rfl
  | cons x xs ih =>
    cases x with
    | file m ct => exact ih
    | dir m ch =>
      have hs : survives c excl rel m ch = survives c' excl rel m ch := by simp only [survives, ha]
      rw [survivingNodes, survivingNodes, ih, hs]

theorem layoutOf_congr {c c' : WalkCfg} (ha : c.autoExclude = c'.autoExclude) (hr : c.recursive = c'.recursive)
    (l : List FsNode) : ∀ rel, layoutOf c excl rel l = layoutOf c' excl rel l := by
  induction l using FsNode.children_induction with
  | step l ih =>
    intro rel
    have hsub : (survivingNodes c' excl rel l).map (fun p => layoutOf c excl (rel ++ [p.1]) p.2) =
        (survivingNodes c' excl rel l).map (fun p => layoutOf c' excl (rel ++ [p.1]) p.2) :=
      List.map_congr_left fun p hp => ih p.1 p.2 (mem_survivingNodes.1 hp).1 _
    rw [layoutOf, layoutOf, subsLayout_eq_flatten, subsLayout_eq_flatten, survivingNodes_congr ha, hsub, hr]
    simp only [dirItems, survivingDirs_eq_map, survivingNodes_congr ha, ha]

theorem mem_subsLayoutK {keep : Str → Bool} :
    it ∈ subsLayoutK c excl rel keep l ↔
      ∃ n ch, FsNode.dir n ch ∈ l ∧ keep n = true ∧ it ∈ layoutK c excl (rel ++ [n]) ch := by
  have hflat : subsLayoutK c excl rel keep l = l.flatMap (nodeLayoutK c excl rel keep) := by
    induction l with
    | nil => rfl
    | cons x xs ih => rw [subsLayoutK, ih, List.flatMap_cons]
  rw [hflat, List.mem_flatMap]
  constructor
  · rintro ⟨x, hx, hi⟩
    cases x with
    | file m ct => cases hi
    | dir n ch =>
      rw [nodeLayoutK_dir] at hi
      split at hi
      · exact ⟨n, ch, hx, ‹_›, hi⟩
      · cases hi
  · rintro ⟨n, ch, hm, hk, hi⟩
    exact ⟨_, hm, by rw [nodeLayoutK_dir, if_pos hk]; exact hi⟩

theorem mem_layoutK :
    it ∈ layoutK c excl rel l ↔ it ∈ dirItemsK c excl rel l ∨
      (c.recursive = true ∧ ∃ n ch, FsNode.dir n ch ∈ l ∧ keepDir c excl rel l n = true ∧
        it ∈ layoutK c excl (rel ++ [n]) ch) := by
  rw [layoutK, List.mem_append]
  by_cases hr : c.recursive = true
  · simp only [hr, if_true, true_and, mem_subsLayoutK]
  · simp [hr]

theorem keepDir_not_excl {n : Str}
    (h : keepDir c excl rel l n = true) : excl (rel ++ [n]) true = false := by
  simp only [keepDir, Bool.and_eq_true, Bool.not_eq_true'] at h
  exact h.1

theorem keepDir_of_noAuto (ha : c.autoExclude = false) :
    keepDir c excl rel l = fun n => !excl (rel ++ [n]) true := by
  funext n
  simp [keepDir, ha]

theorem mem_dirItemsWith {subs : List Str} :
    it ∈ dirItemsWith c excl rel l subs ↔ Guard c excl rel l ∧
      (it = .index rel (sortStrs subs) (sortStrs (keptFiles excl rel l)) ∨
       ∃ f ct, it = .page rel f ct ∧ f ∈ keptFiles excl rel l ∧ isCMakeName f = true ∧ findFile f l = some ct) := by
  unfold dirItemsWith Guard
  split
  · simp_all
  · simp only [List.mem_cons, mem_dirPages, mem_sortStrs]
    simp_all

theorem mem_dirItems :
    it ∈ dirItems c excl rel l ↔ Guard c excl rel l ∧
      (it = .index rel (sortStrs (survivingDirs c excl rel l)) (sortStrs (keptFiles excl rel l)) ∨
       ∃ f ct, it = .page rel f ct ∧ f ∈ keptFiles excl rel l ∧ isCMakeName f = true ∧ findFile f l = some ct) :=
  mem_dirItemsWith

theorem Processed.trans {rel₀ rel₁ rel₂ : List Str}
    {l₀ l₁ l₂ : List FsNode} (h₁ : Processed c excl rel₀ l₀ rel₁ l₁) (h₂ : Processed c excl rel₁ l₁ rel₂ l₂) :
    Processed c excl rel₀ l₀ rel₂ l₂ := by
  induction h₂ with
  | root => exact h₁
  | sub _ hr hm hs ih => exact .sub ih hr hm hs

theorem Processed.layout_subset {rel₀ rel : List Str}
    {l₀ l : List FsNode} (h : Processed c excl rel₀ l₀ rel l) :
    ∀ it ∈ layoutOf c excl rel l, it ∈ layoutOf c excl rel₀ l₀ := by
  induction h with
  | root => exact fun _ h => h
  | sub _ hr hm hs ih =>
    intro it hit
    exact ih it (mem_layoutOf.2 (Or.inr ⟨hr, _, _, hm, hs, hit⟩))

/-- a sub-directory survives by the very test that lets a directory have an index -/
theorem Guard.of_survives {n : Str} {ch : List FsNode} (hs : survives c excl rel n ch = true) :
    Guard c excl (rel ++ [n]) ch := by
  intro ha
  simp only [survives, ha, Bool.not_true, Bool.false_or, Bool.and_eq_true] at hs
  exact hs.2

theorem Processed.guard {rel₀ rel : List Str}
    {l₀ l : List FsNode} (h : Processed c excl rel₀ l₀ rel l) (hg : Guard c excl rel₀ l₀) :
    Guard c excl rel l := by
  cases h with
  | root => exact hg
  | sub _ _ _ hs => exact .of_survives hs

theorem mem_layoutOf_iff_processed :
    it ∈ layoutOf c excl rel listing ↔
      ∃ rel' l', Processed c excl rel listing rel' l' ∧ it ∈ dirItems c excl rel' l' := by
  refine ⟨fun h => ?_, fun ⟨rel', l', hp, hi⟩ => hp.layout_subset it (mem_layoutOf.2 (.inl hi))⟩
  induction listing using FsNode.children_induction generalizing rel with
  | step l ih =>
    rcases mem_layoutOf.1 h with h | ⟨hr, n, ch, hm, hs, hi⟩
    · exact ⟨_, _, .root, h⟩
    · obtain ⟨rel', l', hp, hi'⟩ := ih n ch hm hi
      exact ⟨rel', l', Processed.trans (.sub .root hr hm hs) hp, hi'⟩

theorem mem_stem {x : Char} {f : Str} (h : x ∈ stem f) : x ∈ f := by
  unfold stem at h
  split at h
  · simp at h
  · rename_i y rest heq
    have h1 : x ∈ y :: rest := List.mem_cons_of_mem _ (List.mem_reverse.1 h)
    rw [← heq] at h1
    exact List.mem_reverse.1 ((List.dropWhile_sublist _).subset h1)

theorem survivingDirs_cons (x : FsNode) (l : List FsNode) :
    survivingDirs c excl rel (x :: l) =
      (match x with | .dir n ch => if survives c excl rel n ch then [n] else [] | .file _ _ => []) ++
        survivingDirs c excl rel l := by
  cases x with
  | file m ct => rfl
  | dir n ch => simp only [survivingDirs]; split <;> rfl

theorem survivingDirs_sublist (l : List FsNode) :
    (survivingDirs c excl rel l).Sublist (dirNames l) := by
  induction l with
  | nil => simp [survivingDirs, dirNames]
  | cons x xs ih =>
    cases x with
    | file m ct => simpa [survivingDirs, dirNames] using ih
    | dir m ch =>
      simp only [survivingDirs, dirNames]
      split
      · exact ih.cons_cons _
      · exact ih.cons _

theorem keptFiles_sublist (l : List FsNode) :
    (keptFiles excl rel l).Sublist (fileNames l) := List.filter_sublist

theorem mem_keptFiles {f : Str} :
    f ∈ keptFiles excl rel l ↔ f ∈ fileNames l ∧ excl (rel ++ [f]) false = false := by
  simp [keptFiles]

/-! ## the declarative equations of `layoutOf`, `pagesOf`, `indexesOf` -/

theorem dirItems_pages (listing : List FsNode) :
    (dirItems c excl rel listing).filterMap WItem.page? =
      if c.autoExclude && !hasCMake excl rel listing then []
      else ((sortStrs (keptFiles excl rel listing)).filter isCMakeName).filterMap
        (fun f => (findFile f listing).map (fun ct => (rel, f, ct))) := by
  unfold dirItems
  split
  · rfl
  · simp only [List.filterMap_cons, WItem.page?, dirPages, List.filterMap_filterMap, List.filterMap_filter]
    congr 1
    funext f
    by_cases h : isCMakeName f = true <;> simp [h, Option.bind]
    cases findFile f listing <;> rfl

theorem dirItems_indexes (listing : List FsNode) :
    (dirItems c excl rel listing).filterMap WItem.index? =
      if c.autoExclude && !hasCMake excl rel listing then []
      else [(rel, sortStrs (survivingDirs c excl rel listing), sortStrs (keptFiles excl rel listing))] := by
  unfold dirItems
  split
  · rfl
  · simp only [List.filterMap_cons, WItem.index?]
    congr 1
    rw [List.filterMap_eq_nil_iff]
    intro it hit
    obtain ⟨f, ct, rfl, _⟩ := mem_dirPages.1 hit
    rfl

/-! ## distinct output paths, under the hypothesis that excludes the stem collisions -/

theorem Processed.prefix {c : WalkCfg} {excl : List Str → Bool → Bool} {rel₀ rel : List Str}
    {l₀ l : List FsNode} (h : Processed c excl rel₀ l₀ rel l) : ∃ q, rel = rel₀ ++ q := by
  induction h with
  | root => exact ⟨[], by simp⟩
  | @sub _ _ n _ _ _ _ _ ih =>
    obtain ⟨q, rfl⟩ := ih
    exact ⟨q ++ [n], by simp⟩

theorem dirItemsWith_path {subs : List Str} (h : it ∈ dirItemsWith c excl rel listing subs) :
    ∃ x, it.path = rel ++ [x] := by
  rcases (mem_dirItemsWith.1 h).2 with rfl | ⟨f, ct, rfl, _⟩
  · exact ⟨_, rfl⟩
  · exact ⟨_, rfl⟩

theorem layout_path (h : it ∈ layoutOf c excl rel listing) : ∃ q x, it.path = rel ++ q ++ [x] := by
  obtain ⟨rel', l', hp, hi⟩ := mem_layoutOf_iff_processed.1 h
  obtain ⟨q, rfl⟩ := hp.prefix
  obtain ⟨x, hx⟩ := dirItemsWith_path hi
  exact ⟨q, x, hx⟩

theorem dirPages_paths_sublist (listing : List FsNode) (names : List Str) :
    ((dirPages rel listing names).map WItem.path).Sublist
      ((names.filter isCMakeName).map (fun f => rel ++ [stem f ++ lit ".rst"])) := by
  induction names with
  | nil => simp [dirPages]
  | cons f fs ih =>
    simp only [dirPages, List.filterMap_cons, List.filter_cons] at ih ⊢
    by_cases hc : isCMakeName f = true
    · simp only [hc, if_true]
      cases hf : findFile f listing with
      | none => simpa using ih.cons (rel ++ [stem f ++ lit ".rst"])
      | some ct => simpa [WItem.path] using ih.cons_cons (rel ++ [stem f ++ lit ".rst"])
    · simpa [hc] using ih

theorem lit_index_rst : lit "index.rst" = lit "index" ++ lit ".rst" := by
  rw [lit_ofList, lit_ofList, lit_ofList]
  rfl

theorem dirItems_paths_sublist :
    ((dirItems c excl rel listing).map WItem.path).Sublist
      ((lit "index" :: ((sortStrs (keptFiles excl rel listing)).filter isCMakeName).map stem).map
        (fun s => rel ++ [s ++ lit ".rst"])) := by
  unfold dirItems
  split
  · exact List.nil_sublist _
  · rw [List.map_cons, List.map_cons, List.map_map, WItem.path, lit_index_rst]
    exact (dirPages_paths_sublist listing _).cons_cons _

theorem dirItems_paths_nodup (h1 : (((keptFiles excl rel listing).filter isCMakeName).map stem).Nodup)
    (h2 : lit "index" ∉ ((keptFiles excl rel listing).filter isCMakeName).map stem) :
    ((dirItems c excl rel listing).map WItem.path).Nodup := by
  have hperm := ((sortStrs_perm (keptFiles excl rel listing)).filter isCMakeName).map stem
  refine dirItems_paths_sublist.nodup (List.Pairwise.map _ (fun a b hne h => hne ?_)
    (List.nodup_cons.2 ⟨fun hm => h2 (hperm.mem_iff.1 hm), hperm.nodup_iff.2 h1⟩))
  exact List.append_cancel_right (List.cons.inj (List.append_cancel_left h)).1

theorem NoStemClash.sub (h : NoStemClash c excl rel listing) (hr : c.recursive = true) {n : Str} {ch : List FsNode}
    (hm : FsNode.dir n ch ∈ listing) (hs : survives c excl rel n ch = true) :
    NoStemClash c excl (rel ++ [n]) ch :=
  fun rel' l' hp => h rel' l' (Processed.trans (.sub .root hr hm hs) hp)

theorem layout_paths_ne {n m : Str} {ch ch' : List FsNode} {a b : WItem} (hnm : n ≠ m)
    (ha : a ∈ layoutOf c excl (rel ++ [n]) ch) (hb : b ∈ layoutOf c excl (rel ++ [m]) ch') : a.path ≠ b.path := by
  obtain ⟨q, x, hx⟩ := layout_path ha
  obtain ⟨q', y, hy⟩ := layout_path hb
  intro h
  rw [hx, hy, List.append_assoc, List.append_assoc, List.append_assoc, List.append_assoc] at h
  exact hnm (List.cons.inj (List.append_cancel_left h)).1

/-- distinct paths: the directory's own items by `NoStemClash`, those of different sub-directories by their names,
    the two groups by their lengths -/
theorem layoutOf_paths_nodup (l : List FsNode) : ∀ rel, treeOk l = true → NoStemClash c excl rel l →
    ((layoutOf c excl rel l).map WItem.path).Nodup := by
  induction l using FsNode.children_induction with
  | step l ih =>
    intro rel htree hns
    have hown := dirItems_paths_nodup (c := c) (hns rel l .root).1 (hns rel l .root).2
    rw [layoutOf]
    split
    case isFalse => simpa using hown
    rename_i hrec
    rw [List.map_append, List.nodup_append]
    refine ⟨hown, ?_, ?_⟩
    · have hnd : (survivingNodes c excl rel l).Pairwise (fun p q => p.1 ≠ q.1) :=
        List.pairwise_map.1 (survivingDirs_eq_map l ▸
          (survivingDirs_sublist l).nodup ((treeOk_iff l).1 htree).1)
      rw [subsLayout_eq_flatten, List.map_flatten, List.map_map, List.Nodup, List.pairwise_flatten]
      constructor
      · intro ps hps
        obtain ⟨p, hp, rfl⟩ := List.mem_map.1 hps
        obtain ⟨hm, hs⟩ := mem_survivingNodes.1 hp
        exact ih p.1 p.2 hm _ (treeOk_child htree hm) (hns.sub hrec hm hs)
      · refine List.pairwise_map.2 (hnd.imp fun hpq x hx y hy => ?_)
        obtain ⟨a, ha, rfl⟩ := List.mem_map.1 hx
        obtain ⟨b, hb, rfl⟩ := List.mem_map.1 hy
        exact layout_paths_ne hpq ha hb
    · intro a ha b hb hab
      obtain ⟨it, hit, rfl⟩ := List.mem_map.1 ha
      obtain ⟨x, hx⟩ := dirItemsWith_path hit
      obtain ⟨it', hit', rfl⟩ := List.mem_map.1 hb
      obtain ⟨n, ch, _, _, hin⟩ := mem_subsLayout.1 hit'
      obtain ⟨q, y, hy⟩ := layout_path hin
      have := congrArg List.length hab
      rw [hx, hy] at this
      simp at this

/-! ## the example tree of `WalkSpec.lean`, evaluated -/

def exLayout : List WItem :=
  [ .index [] [lit "sub"] [lit "A.CMake", lit "b.cmake", lit "readme.txt"],
    .page [] (lit "A.CMake") [],
    .page [] (lit "b.cmake") (lit "#[[[\n# doc\n#]]\nfunction(f)\nendfunction()\n"),
    .index [lit "sub"] [lit "deep"] [lit "c.cmake"],
    .page [lit "sub"] (lit "c.cmake") [],
    .index [lit "sub", lit "deep"] [] [lit "d.cmake"],
    .page [lit "sub", lit "deep"] (lit "d.cmake") [] ]

theorem ex_treeOk : treeOk exTree = true := by decide +kernel

theorem ex_layout : layoutOf exCfg exExcl [] exTree = exLayout := by
  simp only [layoutOf, dirItems, sortStrs_eq_isort]
  decide +kernel

theorem ex_paths : exLayout.map WItem.path =
    [[lit "index.rst"], [lit "A.rst"], [lit "b.rst"], [lit "sub", lit "index.rst"], [lit "sub", lit "c.rst"],
     [lit "sub", lit "deep", lit "index.rst"], [lit "sub", lit "deep", lit "d.rst"]] := by decide +kernel

theorem ex_layout_out : layoutOf exCfgOut exExcl [] exTree = exLayout := by
  rw [← ex_layout]; exact layoutOf_congr rfl rfl exTree []

theorem ex_layout_flat : layoutOf exCfgFlat exExcl [] exTree = exLayout.take 3 := by
  simp only [layoutOf, dirItems, sortStrs_eq_isort]
  decide +kernel

theorem ex_guard : Guard exCfg exExcl [] exTree := fun _ => by decide +kernel

theorem ex_pages : pagesOf exCfg exExcl [] exTree =
    [ ([], lit "A.CMake", []),
      ([], lit "b.cmake", lit "#[[[\n# doc\n#]]\nfunction(f)\nendfunction()\n"),
      ([lit "sub"], lit "c.cmake", []),
      ([lit "sub", lit "deep"], lit "d.cmake", []) ] := by
  rw [pagesOf, ex_layout]; rfl

theorem ex_indexes : indexesOf exCfg exExcl [] exTree =
    [ ([], [lit "sub"], [lit "A.CMake", lit "b.cmake", lit "readme.txt"]),
      ([lit "sub"], [lit "deep"], [lit "c.cmake"]),
      ([lit "sub", lit "deep"], [], [lit "d.cmake"]) ] := by
  rw [indexesOf, ex_layout]; rfl

theorem ex_pages_out : pagesOf exCfgOut exExcl [] exTree = pagesOf exCfg exExcl [] exTree := by
  rw [pagesOf, pagesOf, ex_layout_out, ex_layout]

theorem ex_pages_flat : pagesOf exCfgFlat exExcl [] exTree = (pagesOf exCfg exExcl [] exTree).take 2 := by
  rw [pagesOf, ex_layout_flat, ex_pages]; rfl

/-- the four pages of the example tree, generated once: all render, to these texts -/
theorem ex_pages_rendered :
    (∀ p ∈ pagesOf exCfg exExcl [] exTree, (page exCfg (some (lit "P")) (relPath p) p.2.2).isOk = true) ∧
    (pagesOf exCfg exExcl [] exTree).map (pageText exCfg (lit "P")) =
      [lit "\n###\nP.A\n###\n\n.. module:: P.A\n\n",
       lit "\n###\nP.b\n###\n\n.. module:: P.b\n\n\n.. function:: f()\n\n   doc\n   \n\n",
       lit "\n#######\nP.sub/c\n#######\n\n.. module:: P.sub/c\n\n",
       lit "\n############\nP.sub/deep/d\n############\n\n.. module:: P.sub/deep/d\n\n"] := by
  rw [ex_pages]
  -- the four literals are turned into characters, so that the kernel does not decode them
  conv => rhs; rhs; rw [lit_ofList, lit_ofList, lit_ofList, lit_ofList]
  decide +kernel

theorem ex_ok : ∀ p ∈ pagesOf exCfg exExcl [] exTree,
    (page exCfg (some (lit "P")) (relPath p) p.2.2).isOk = true :=
  ex_pages_rendered.1

theorem ex_ok_out : ∀ p ∈ pagesOf exCfgOut exExcl [] exTree,
    (page exCfgOut (some (lit "P")) (relPath p) p.2.2).isOk = true := by
  rw [ex_pages_out]; exact ex_ok

theorem ex_ok_flat : ∀ p ∈ pagesOf exCfgFlat exExcl [] exTree,
    (page exCfgFlat (some (lit "P")) (relPath p) p.2.2).isOk = true := by
  rw [ex_pages_flat]; exact fun p hp => ex_ok p (List.mem_of_mem_take hp)

theorem ex_write_b : WItem.write exCfg (lit "P") (.page exB.1 exB.2.1 exB.2.2) =
    ⟨[lit "b.rst"], lit "\n###\nP.b\n###\n\n.. module:: P.b\n\n\n.. function:: f()\n\n   doc\n   \n\n"⟩ := by
  have hp : stem (lit "b.cmake") ++ lit ".rst" = lit "b.rst" := eq_lit_of (by decide +kernel)
  have ht := congrArg (·[1]?) ex_pages_rendered.2
  rw [ex_pages] at ht
  rw [← hp, ← Option.some.inj ht]
  rfl

theorem ex_sub_processed : Processed exCfg exExcl [] exTree [lit "sub"]
    [ .file (lit "c.cmake") [], .dir (lit "deep") [.file (lit "d.cmake") []],
      .dir (lit "nocmake") [.file (lit "x.txt") []] ] :=
  .sub .root rfl (n := lit "sub") (by simp [exTree]) (by decide +kernel)

theorem eq_error_of_errOf {x : Except Err Str} {e : Err} (h : errOf x = some e) : x = .error e := by
  cases x <;> simp_all [errOf]

theorem exInDir_ok : (aloneOut exCfg exInDir).error = none ∧
    (document exCfg exInDir.excl exInDir.exclRoot exInDir.inp {}).2 = false :=
  ⟨walkDir_error_none ex_treeOk rfl (items_ok (.inr (by decide)) ex_ok), rfl⟩

theorem exInFile_ok : (aloneOut exCfg exInFile).error = none ∧
    (document exCfg exInFile.excl exInFile.exclRoot exInFile.inp {}).2 = false := by
  exact ⟨by decide +kernel, rfl⟩

end Cminx
