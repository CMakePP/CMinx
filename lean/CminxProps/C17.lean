import CminxLemmas.WalkLemmas
/-!
# C17 — output is a function of contents, relative paths and settings only

## What the model's signatures already say (not a theorem)

`walkDir c excl pfx rel listing r`, `document c excl exclRoot inp r` and `runMain c inputs r` are total pure
functions.  Their arguments are: the settings `c`; the exclusion predicate on paths *relative to the input*;
the input itself — for a lone file its base name and content, for a directory the last component of its path
and the tree of (name, content) below it; and the run so far `r`.  There is no argument for the working
directory, for the absolute location of the input tree, for a hash seed or for a clock, so "repeating the run,
changing the working directory, moving the whole input tree elsewhere, a different hash seed" cannot change the
model's result: the two runs are the *same term*.  That the Python program really has no further inputs is what
the correspondence harness checks (it re-runs every case from another working directory, from a moved copy of the
tree and under a different `PYTHONHASHSEED`, and compares against the model).  Independence of the order of
directory listings is C15 and proved there.

## What is proved here

* `C17_accumulator_*`  — `emitPage`, `emitFiles`, `walkDir`, `walkSubs`, `document` only ever *append* to the run
                         so far: `f r = r.app (f {})`.
* `C17_settings_only`  — hence what one input adds (writes, printed text, error) is the same whatever was
                         documented before it in the same run.
* `C17_dir_name_irrelevant` — with `rst.prefix` set, even the name of the input directory is irrelevant.
* `C17_alone`, `C17_run_concat`, `C17_history` — in a run over several inputs that ends normally, the files
                         generated for one input are exactly the files generated when it is documented alone,
                         whatever is documented before or after it.

Remark (not a defect of the statement, inherent in the output naming): the theorems speak about *writes*.  Two
directory inputs documented in one run both write `index.rst` at the top of the same output directory, so the
second overwrites the first on disk; C17 is about each generated file's bytes at the time it is generated.
-/
namespace Cminx

theorem C17_accumulator_emitPage (c : WalkCfg) (pfx : Option Str) (rel : List Str) (name content : Str)
    (r : RunResult) : emitPage c pfx rel name content r = r.app (emitPage c pfx rel name content {}) :=
  emitPage_app pfx name content r

theorem C17_accumulator_emitFiles (c : WalkCfg) (pfx : Option Str) (rel : List Str) (listing : List FsNode)
    (names : List Str) (r : RunResult) :
    emitFiles c pfx rel listing names r = r.app (emitFiles c pfx rel listing names {}) :=
  emitFiles_app pfx listing names r

theorem C17_accumulator_walkDir (c : WalkCfg) (excl : List Str → Bool → Bool) (pfx : Str) (rel : List Str)
    (listing : List FsNode) (r : RunResult) :
    walkDir c excl pfx rel listing r = r.app (walkDir c excl pfx rel listing {}) :=
  walkDir_seq c excl pfx rel listing r

theorem C17_accumulator_walkSubs (c : WalkCfg) (excl : List Str → Bool → Bool) (pfx : Str) (rel : List Str)
    (keep : Str → Bool) (l : List FsNode) (r : RunResult) :
    walkSubs c excl pfx rel keep l r = r.app (walkSubs c excl pfx rel keep l {}) :=
  walkSubs_seq c excl pfx rel keep l r

theorem C17_accumulator_document (c : WalkCfg) (excl : List Str → Bool → Bool) (exclRoot : Bool) (inp : Input)
    (r : RunResult) :
    (document c excl exclRoot inp r).1 = r.app (document c excl exclRoot inp {}).1 ∧
      (document c excl exclRoot inp r).2 = (document c excl exclRoot inp {}).2 :=
  ⟨document_app exclRoot inp r, document_exit exclRoot inp r⟩

/-- What documenting one input adds to a run that has not failed — the new writes, the newly printed text, the
    error if any, and whether the program exits — is what documenting it in a fresh run produces: it depends on
    the settings, the relative exclusion predicate and the input only, not on anything documented before. -/
theorem C17_settings_only (c : WalkCfg) (excl : List Str → Bool → Bool) (exclRoot : Bool) (inp : Input)
    (r : RunResult) (hr : r.error = none) :
    (document c excl exclRoot inp r).1 =
        { writes := r.writes ++ (document c excl exclRoot inp {}).1.writes,
          stdout := r.stdout ++ (document c excl exclRoot inp {}).1.stdout,
          error := (document c excl exclRoot inp {}).1.error } ∧
      (document c excl exclRoot inp r).2 = (document c excl exclRoot inp {}).2 := by
  rw [document_app, RunResult.app_of_ok hr]
  exact ⟨rfl, document_exit exclRoot inp r⟩

/-- With `rst.prefix` configured the name of the input directory does not enter the output at all (without it,
    only the last path component does: it is the default prefix). -/
theorem C17_dir_name_irrelevant {c : WalkCfg} {p : Str} (hp : c.pfx = some p) (excl : List Str → Bool → Bool)
    (exclRoot : Bool) (n₁ n₂ : Str) (listing : List FsNode) (r : RunResult) :
    document c excl exclRoot (.dir n₁ listing) r = document c excl exclRoot (.dir n₂ listing) r := by
  simp [document, hp]

theorem C17_alone (c : WalkCfg) (i : MainInput) : (runMain c [i] {}).1 = aloneOut c i := by
  rw [runMain_cons rfl]
  split
  · rfl
  · rfl

/-- A run that ends normally (status 0: no error, no missing input) has written and printed, on top of what was
    there before, the concatenation over its inputs of what each generates alone. -/
theorem C17_run_concat {c : WalkCfg} {is : List MainInput} {r : RunResult} (hok : (runMain c is r).2 = .ok) :
    (runMain c is r).1.writes = r.writes ++ (is.map (fun i => (aloneOut c i).writes)).flatten ∧
      (runMain c is r).1.stdout = r.stdout ++ (is.map (fun i => (aloneOut c i).stdout)).flatten := by
  induction is generalizing r with
  | nil => simp [runMain]
  | cons i is ih =>
    obtain ⟨hr, _, hstep⟩ := runMain_cons_of_ok hok
    rw [hstep] at hok ⊢
    rw [(ih hok).1, (ih hok).2, RunResult.app_of_ok hr]
    simp [List.append_assoc]

/-- **History independence.**  In a run over `is₁ ++ i :: is₂` that ends normally, the writes (and the printed
    text) are: what was there, then what `is₁` generate, then exactly what `i` generates *alone*
    (`runMain c [i] {}`), then what `is₂` generate.  So the files generated for `i` are the same alone and inside
    any longer run, whatever is documented before or after. -/
theorem C17_history {c : WalkCfg} {is₁ is₂ : List MainInput} {i : MainInput} {r : RunResult}
    (hok : (runMain c (is₁ ++ i :: is₂) r).2 = .ok) :
    (runMain c (is₁ ++ i :: is₂) r).1.writes =
        r.writes ++ (is₁.map (fun j => (aloneOut c j).writes)).flatten ++ (runMain c [i] {}).1.writes ++
          (is₂.map (fun j => (aloneOut c j).writes)).flatten ∧
      (runMain c (is₁ ++ i :: is₂) r).1.stdout =
        r.stdout ++ (is₁.map (fun j => (aloneOut c j).stdout)).flatten ++ (runMain c [i] {}).1.stdout ++
          (is₂.map (fun j => (aloneOut c j).stdout)).flatten := by
  have h := C17_run_concat hok
  rw [h.1, h.2, C17_alone]
  simp [List.append_assoc]

/-- in such a run every input, documented alone, raises no error and does not make the program exit -/
theorem C17_history_parts_ok {c : WalkCfg} {is : List MainInput} {r : RunResult}
    (hok : (runMain c is r).2 = .ok) :
    ∀ i ∈ is, (aloneOut c i).error = none ∧ (document c i.excl i.exclRoot i.inp {}).2 = false := by
  induction is generalizing r with
  | nil => simp
  | cons i is ih =>
    obtain ⟨hr, hex, hstep⟩ := runMain_cons_of_ok hok
    rw [hstep] at hok
    have hr' := runMain_status_ok hok
    rw [RunResult.app_of_ok hr] at hr'
    exact List.forall_mem_cons.2 ⟨⟨hr', hex⟩, ih hok⟩

/-- conversely, a run over inputs each of which is fine alone ends normally -/
theorem C17_status_ok {c : WalkCfg} {is : List MainInput} {r : RunResult} (hr : r.error = none)
    (h : ∀ i ∈ is, (aloneOut c i).error = none ∧ (document c i.excl i.exclRoot i.inp {}).2 = false) :
    (runMain c is r).2 = .ok := by
  induction is generalizing r with
  | nil => simp [runMain, hr]
  | cons i is ih =>
    obtain ⟨hi, his⟩ := List.forall_mem_cons.1 h
    rw [runMain_cons hr, document_exit, hi.2]
    simp only [Bool.false_eq_true, if_false]
    apply ih _ his
    rw [document_app, RunResult.app_of_ok hr]
    exact hi.1

/-! ## Non-vacuity: a run over the example directory and a lone file, in both orders -/

example : (runMain exCfg [exInDir, exInFile] {}).2 = .ok :=
  C17_status_ok rfl (by simp [exInDir_ok, exInFile_ok])

-- the files generated for the directory are the same alone, before the lone file, and after it
example : (runMain exCfg [exInDir, exInFile] {}).1.writes =
    (runMain exCfg [exInDir] {}).1.writes ++ (aloneOut exCfg exInFile).writes := by
  have h := (C17_history (c := exCfg) (is₁ := []) (i := exInDir) (is₂ := [exInFile]) (r := {})
    (C17_status_ok rfl (by simp [exInDir_ok, exInFile_ok]))).1
  simpa using h

example : (runMain exCfg [exInFile, exInDir] {}).1.writes =
    (aloneOut exCfg exInFile).writes ++ (runMain exCfg [exInDir] {}).1.writes := by
  have h := (C17_history (c := exCfg) (is₁ := [exInFile]) (i := exInDir) (is₂ := []) (r := {})
    (C17_status_ok rfl (by simp [exInDir_ok, exInFile_ok]))).1
  simpa using h

example (r : RunResult) :
    document { exCfg with pfx := some (lit "P") } exExcl false (.dir (lit "here") exTree) r =
      document { exCfg with pfx := some (lit "P") } exExcl false (.dir (lit "elsewhere") exTree) r :=
  C17_dir_name_irrelevant rfl exExcl false _ _ exTree r

end Cminx
