import CminxModel.Config
import CminxLemmas.Except
/-!
# C16 — settings layer as command line > -s file > user config > defaults

"Decision logic stated outright" about `Config.lean`.  The stacking library (confuse), argparse and YAML are not
modelled; the tie between this logic and the real stack is the exhaustive enumeration in `harness/s_config.py`.
-/
namespace Cminx

/-! ## `Source.get`, `effective`: the first source that sets the option wins -/

section
variable {s t : Source} {rest : List Source} {k k' : Str} {v : CVal}

theorem Source.get_nil : Source.get [] k = none := rfl

theorem Source.get_cons : Source.get ((k', v) :: s) k = if k = k' then some v else Source.get s k := by
  by_cases h : k = k'
  · simp [Source.get, h]
  · have : (k' == k) = false := by simpa using Ne.symm h
    simp [Source.get, h, this]

theorem Source.get_append : Source.get (s ++ t) k = (Source.get s k).or (Source.get t k) := by
  simp [Source.get, List.find?_append, Option.map_or]

/-- a source of one entry or none -/
theorem Source.get_option (ov : Option CVal) :
    Source.get (ov.map (Prod.mk k')).toList k = if k = k' then ov else none := by
  cases ov <;> simp [Source.get_cons, Source.get_nil]

theorem effective_nil : effective [] k = none := rfl

theorem effective_cons : effective (s :: rest) k = (s.get k).or (effective rest k) := by
  unfold effective
  rw [List.findSome?_cons]
  cases s.get k <;> rfl

theorem effective_cons_none (h : s.get k = none) : effective (s :: rest) k = effective rest k := by
  rw [effective_cons, h]
  rfl

theorem effective_cons_some (h : s.get k = some v) : effective (s :: rest) k = some v := by
  rw [effective_cons, h]
  rfl

end

/-- the value in effect is the one of the highest-priority source that sets the option -/
theorem C16_precedence (cli sfile user defaults : Source) (k : Str) :
    effective [cli, sfile, user, defaults] k =
      match cli.get k with
      | some v => some v
      | none => match sfile.get k with
        | some v => some v
        | none => match user.get k with
          | some v => some v
          | none => defaults.get k := by
  simp only [effective_cons, effective_nil, Option.or_none]
  -- `Option.or` is the `match` of the statement, one source at a time
  cases cli.get k with
  | some v => rfl
  | none =>
    cases sfile.get k with
    | some v => rfl
    | none => cases user.get k <;> rfl

/-- general form: the first source (in priority order) that sets the option wins, whatever the later ones say -/
theorem C16_first_wins (hi lo : List Source) (s : Source) (k : Str) (v : CVal)
    (hhi : ∀ t ∈ hi, t.get k = none) (hs : s.get k = some v) :
    effective (hi ++ s :: lo) k = some v := by
  induction hi with
  | nil => exact effective_cons_some hs
  | cons t ts ih =>
    rw [List.cons_append, effective_cons_none (hhi t List.mem_cons_self)]
    exact ih fun u hu => hhi u (List.mem_cons_of_mem t hu)

/-- an option set nowhere else takes the packaged default -/
theorem C16_default (cli sfile user defaults : Source) (k : Str)
    (h1 : cli.get k = none) (h2 : sfile.get k = none) (h3 : user.get k = none) :
    effective [cli, sfile, user, defaults] k = defaults.get k := by
  rw [C16_precedence]
  simp [h1, h2, h3]

/-! ## `resolveOpt`: the template of the option is applied to the winning value only -/

/-- a value of the wrong type in the winning source is rejected — lower-priority sources and defaults never rescue it -/
theorem C16_type_rejected (hi lo : List Source) (s : Source) (k : Str) (ty : CType) (v : CVal)
    (hhi : ∀ t ∈ hi, t.get k = none) (hs : s.get k = some v) (hty : ty.accepts v = false) :
    resolveOpt (hi ++ s :: lo) k ty = .error k := by
  simp [resolveOpt, C16_first_wins hi lo s k v hhi hs, hty]

/-- a well-typed winning value is returned unchanged -/
theorem C16_type_accepted (hi lo : List Source) (s : Source) (k : Str) (ty : CType) (v : CVal)
    (hhi : ∀ t ∈ hi, t.get k = none) (hs : s.get k = some v) (hty : ty.accepts v = true) :
    resolveOpt (hi ++ s :: lo) k ty = .ok (some v) := by
  simp [resolveOpt, C16_first_wins hi lo s k v hhi hs, hty]

/-- `resolveOpt` fails exactly when the effective value exists and has the wrong type -/
theorem C16_type_iff (sources : List Source) (k : Str) (ty : CType) :
    (∃ e, resolveOpt sources k ty = .error e) ↔ ∃ v, effective sources k = some v ∧ ty.accepts v = false := by
  unfold resolveOpt
  cases h : effective sources k with
  | none => simp
  | some v => by_cases ha : ty.accepts v = true <;> simp [ha]

theorem resolveOpt_ok {sources : List Source} {k : Str} {ty : CType} {v : Option CVal}
    (h : resolveOpt sources k ty = .ok v) : v = effective sources k := by
  unfold resolveOpt at h
  split at h
  · rename_i he
    cases h
    exact he.symm
  · rename_i w he
    split at h <;> cases h
    exact he.symm

/-- which values the templates accept: booleans only for `bool`, strings only for string options, … -/
theorem C16_bool_template (v : CVal) : CType.bool.accepts v = true ↔ ∃ b, v = .bool b := by
  cases v <;> simp [CType.accepts]
theorem C16_str_template (v : CVal) : CType.str.accepts v = true ↔ ∃ s, v = .str s := by
  cases v <;> simp [CType.accepts]
theorem C16_optStr_template (v : CVal) : CType.optStr.accepts v = true ↔ ∃ s, v = .str s := by
  cases v <;> simp [CType.accepts]
theorem C16_filename_template (v : CVal) : CType.optFilename.accepts v = true ↔ ∃ s, v = .str s := by
  cases v <;> simp [CType.accepts]
theorem C16_list_template (v : CVal) : CType.optList.accepts v = true ↔ ∃ xs, v = .list xs := by
  cases v <;> simp [CType.accepts]

/-! ## `resolveAll`: the option table, each key with its value in effect -/

theorem resolveAll_ok {sources : List Source} {vals : List (Str × Option CVal)} (h : resolveAll sources = .ok vals) :
    vals = optionTable.map fun kt => (kt.1, effective sources kt.1) := by
  refine mapM_except_eq_map (fun ⟨k, ty⟩ b hb => ?_) h
  obtain ⟨v, hv, hb⟩ := Except.bind_eq_ok.mp hb
  cases hb
  rw [resolveOpt_ok hv]

/-- a successful resolution returns, for every option of the table, the value in effect -/
theorem C16_resolveAll_lookup (sources : List Source) (vals : List (Str × Option CVal))
    (h : resolveAll sources = .ok vals) (k : Str) (ty : CType) (hk : (k, ty) ∈ optionTable) :
    (k, effective sources k) ∈ vals := by
  rw [resolveAll_ok h]
  exact List.mem_map_of_mem hk

/-- In a table whose values are a function of the key, `lookup` finds that function's value whichever entry for the key comes
    first: reading `resolveAll`'s result needs no fact about the keys of the option table. -/
theorem lookup_map_of_mem {κ τ β : Type} [BEq κ] [LawfulBEq κ] (f : κ → β) {k : κ} {t : τ} :
    ∀ {l : List (κ × τ)}, (k, t) ∈ l → (l.map fun kt => (kt.1, f kt.1)).lookup k = some (f k)
  | (k', t') :: l, h => by
    rw [List.map_cons, List.lookup_cons]
    by_cases hk : k = k'
    · subst hk
      simp
    · have hne : (k == k') = false := by simpa using hk
      rw [hne]
      exact lookup_map_of_mem f ((List.mem_cons.mp h).resolve_left fun e => hk (congrArg Prod.fst e))

/-! rows of the option table, read off by position (no key is compared) -/
theorem optionTable_recursive : (lit "input.recursive", CType.bool) ∈ optionTable := List.mem_of_getElem? (i := 16) rfl
theorem optionTable_prefix : (lit "rst.prefix", CType.optStr) ∈ optionTable := List.mem_of_getElem? (i := 25) rfl

/-! ## `allContents`: exclude patterns are concatenated over the sources -/

theorem allContents_nil (k : Str) : allContents [] k = [] := rfl

theorem allContents_cons (s : Source) (rest : List Source) (k : Str) :
    allContents (s :: rest) k = (match s.get k with | some (.list xs) => xs | _ => []) ++ allContents rest k := by
  unfold allContents
  rw [List.filterMap_cons]
  cases h : s.get k with
  | none => rfl
  | some v =>
    rw [List.flatMap_cons]
    cases v <;> rfl

/-- exclude patterns are the concatenation of the lists of all sources, highest priority first -/
theorem C16_filters (a b c : List CVal) (cli sfile user : Source) (k : Str)
    (h1 : cli.get k = some (.list a)) (h2 : sfile.get k = some (.list b)) (h3 : user.get k = some (.list c)) :
    allContents [cli, sfile, user] k = a ++ b ++ c := by
  simp only [allContents_cons, allContents_nil, h1, h2, h3, List.append_nil, List.append_assoc]

/-- a source that does not set the filters contributes nothing and hides nothing -/
theorem C16_filters_skip (a c : List CVal) (cli sfile user : Source) (k : Str)
    (h1 : cli.get k = some (.list a)) (h2 : sfile.get k = none) (h3 : user.get k = some (.list c)) :
    allContents [cli, sfile, user] k = a ++ c := by
  simp only [allContents_cons, allContents_nil, h1, h2, h3, List.append_nil, List.nil_append]

theorem allContents_mem {sources : List Source} {src : Source} {l : List CVal} {v : CVal}
    (hs : src ∈ sources) (hl : src.get filtersKey = some (.list l)) (hv : v ∈ l) :
    v ∈ allContents sources filtersKey := by
  unfold allContents
  rw [List.mem_flatMap]
  exact ⟨.list l, List.mem_filterMap.mpr ⟨src, hs, hl⟩, hv⟩

/-! ## the union option is type-checked in every source (repair D13, `resolveMain`) -/

theorem isListVal_eq_true {v : CVal} : isListVal v = true ↔ ∃ xs, v = .list xs := by
  cases v <;> simp [isListVal]

theorem filtersWellTyped_eq_true {sources : List Source} :
    filtersWellTyped sources = true ↔ ∀ src ∈ sources, ∀ v, src.get filtersKey = some v → ∃ xs, v = .list xs := by
  unfold filtersWellTyped
  simp only [List.all_eq_true, isListVal_eq_true]
  constructor
  · exact fun h src hs v hv => h v (List.mem_filterMap.mpr ⟨src, hs, hv⟩)
  · intro h v hv
    obtain ⟨src, hs, hsv⟩ := List.mem_filterMap.mp hv
    exact h src hs v hsv

/-- a run that gets as far as `document` has a list (or nothing) in every source, and the patterns in effect are the
    concatenation over command line, `-s` file and user file, in that order -/
theorem C16_filters_main (sources : List Source) (vals : List (Str × Option CVal)) (fs : List CVal)
    (h : resolveMain sources = .ok (vals, fs)) :
    (∀ src ∈ sources, ∀ v, src.get filtersKey = some v → ∃ xs, v = .list xs) ∧
    fs = allContents (sources.take 3) filtersKey ∧ resolveAll sources = .ok vals := by
  unfold resolveMain at h
  split at h
  · cases h
  · rename_i vals' hr
    split at h
    · rename_i hw
      cases h
      exact ⟨filtersWellTyped_eq_true.mp hw, rfl, hr⟩
    · cases h

/-- "a value of the wrong type is rejected rather than silently replaced", for the one option that is read from *every* source:
    a value of `input.exclude_filters` that is not a list makes the run fail in whichever source it stands — also below a source
    that supplies a well-typed list, where the template (which sees the winning value only) does not look -/
theorem C16_filters_any_source_rejected (sources : List Source) (src : Source) (v : CVal)
    (hs : src ∈ sources) (hv : src.get filtersKey = some v) (hl : isListVal v = false) :
    ∃ k, resolveMain sources = .error k := by
  cases h : resolveMain sources with
  | error k => exact ⟨k, rfl⟩
  | ok vf =>
    -- a run that succeeds has a list in every source that sets the option
    obtain ⟨xs, rfl⟩ := (C16_filters_main sources vf.1 vf.2 h).1 src hs v hv
    cases hl

-- non-vacuity: a bare string in the `-s` file below a list from the command line
example : ∃ k, resolveMain [[(filtersKey, .list [.str (lit "c1")])], [(filtersKey, .str (lit "build"))], [], [(filtersKey, .list [])]] = .error k :=
  C16_filters_any_source_rejected _ [(filtersKey, .str (lit "build"))] (.str (lit "build")) (by simp) (by simp [Source.get_cons]) rfl

/-- a relative output directory is resolved against the current directory … -/
theorem C16_outdir_cwd (cwd path : Str) (o : Origin) :
    resolveDir cwd false o false path = cwd ++ '/' :: path := by simp [resolveDir]
/-- … or against the directory of the configuration file that sets it when `relative_to_config` is true … -/
theorem C16_outdir_config (cwd dir path : Str) :
    resolveDir cwd true ⟨some dir⟩ false path = dir ++ '/' :: path := by simp [resolveDir]
/-- … a value from the command line has no file, so the current directory is used; absolute paths are kept -/
theorem C16_outdir_cli (cwd path : Str) : resolveDir cwd true ⟨none⟩ false path = cwd ++ '/' :: path := by simp [resolveDir]
theorem C16_outdir_abs (cwd path : Str) (r : Bool) (o : Origin) : resolveDir cwd r o true path = path := by simp [resolveDir]

-- non-vacuity: three sources that all set `rst.prefix`, and a wrong-typed winner
example : effective [[(lit "rst.prefix", .str (lit "C"))], [(lit "rst.prefix", .str (lit "S"))], [(lit "rst.prefix", .str (lit "U"))], []]
    (lit "rst.prefix") = some (.str (lit "C")) :=
  effective_cons_some (by rw [Source.get_cons, if_pos rfl])
example : resolveOpt [[], [(lit "input.recursive", .str (lit "yes"))], [(lit "input.recursive", .bool true)], [(lit "input.recursive", .bool false)]]
    (lit "input.recursive") .bool = .error (lit "input.recursive") :=
  C16_type_rejected [[]] _ _ _ _ (.str (lit "yes")) (by simp [Source.get_nil]) (by rw [Source.get_cons, if_pos rfl]) rfl

end Cminx
