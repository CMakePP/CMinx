import CminxProps.C04
import CminxProps.C07
/-!
# C04, CRLF half — at the level of the generated page

*Statement (second sentence of C04).*  "Converting line endings between LF and CRLF changes at most line-ending
characters and whitespace-only lines of the output."

`normPage` is the normalisation the sentence names; `Module.toCrlf` is the decorated module with every line end
converted, argument texts and bracket-comment texts kept verbatim — arguments with embedded line breaks are outside
this theorem.  `C04_crlf_page` — both files are processed and `normPage out' = normPage out`.
`C04_crlf_page_text` — the same for the text `crlfText m.render`, with validity of the converted file derived
(`C04_crlf_valid`) for LF files that contain no `'\r'`.
Read from right to left these are the CRLF → LF direction (the conclusion is symmetric).

*Side conditions, all explicit.*
* doccomments that reach the output are canonical (`Module.docsCanonical`: `DocC.Canonical` for commands, blocks,
  declarations; `DocC.ModCanonical` for the module doccomment; dangling doccomments are unconstrained);
* `ProbeOk cfg.trigger`: the `kwargs_doc_trigger_string` contains no `'\n'` and does not *end* in `'\r'` (weaker than
  "no `'\r'`, no `'\n'`", `ProbeOk.of_noCrNl`).  Both halves are needed: `"it\r"` is created, `"a\nb"` destroyed by
  the conversion (examples at the end, including a page whose normal form changes);
* the `:param p:` / `:type p:` probes of `MethodDocumentation.process` end in `':'`, so they only need `'\n' ∉ p`,
  which is part of `Entry.OneLine` (`methodFields_docRel`);
* `Entry.OneLine` for the entries and `'\n' ∉ modName` (hypotheses of `C07_page_lines`);
* `T_pipeline`'s hypotheses for `m`; for `m.toCrlf` well-formedness and the K1 guard are derived
  (`C04_crlf_guards`), validity is a hypothesis of `C04_crlf_page` and derived in `C04_crlf_page_text`.
-/
namespace Cminx

open C01

/-- delete every `'\r'` -/
def noCr (s : Str) : Str := s.filter (fun c => c ≠ '\r')

/-- a whitespace-only line (the empty line included) -/
def isBlankLine (l : Str) : Bool := l.all (fun c => c = ' ' || c = '\t')

/-- **the normalisation of C04's second sentence**: delete every `'\r'` of the page, split into lines, drop the
    whitespace-only lines -/
def normPage (s : Str) : List Str := (splitNl (noCr s)).filter (fun l => !isBlankLine l)

/-- the same on a list of lines: delete `'\r'` in every line, drop the whitespace-only lines -/
def normLines (ls : List Str) : List Str := (ls.map noCr).filter (fun l => !isBlankLine l)

theorem noCr_nil : noCr [] = [] := rfl
theorem noCr_cons_cr (cs : Str) : noCr ('\r' :: cs) = noCr cs := by simp [noCr]
theorem noCr_cons_of_ne (c : Char) (cs : Str) (h : c ≠ '\r') : noCr (c :: cs) = c :: noCr cs := by simp [noCr, h]
theorem noCr_append (a b : Str) : noCr (a ++ b) = noCr a ++ noCr b := by simp [noCr]

theorem splitNl_noCr (s : Str) : splitNl (noCr s) = (splitNl s).map noCr := by
  induction s using splitNl_induction with
  | nil => rfl
  | nl cs ih =>
    rw [noCr_cons_of_ne _ _ (by decide), splitNl_cons_nl, splitNl_cons_nl, ih]
    rfl
  | char c cs l ls hn hs ih =>
    by_cases hr : c = '\r'
    · subst hr
      rw [noCr_cons_cr, ih, splitNl_cons_of_ne hn, hs]
      simp [noCr_cons_cr]
    · rw [noCr_cons_of_ne c cs hr, splitNl_cons_of_ne hn, splitNl_cons_of_ne hn, ih, hs]
      simp [noCr_cons_of_ne c _ hr]

theorem normPage_eq (s : Str) : normPage s = normLines (splitNl s) := by
  simp [normPage, normLines, splitNl_noCr]

theorem normLines_append (a b : List Str) : normLines (a ++ b) = normLines a ++ normLines b := by
  simp [normLines]

theorem normLines_cons_blank (l : Str) (ls : List Str) (h : isBlankLine (noCr l) = true) :
    normLines (l :: ls) = normLines ls := by
  simp [normLines, h]

/-- every `'\n'` replaced by `"\r\n"` -/
def crlfText (t : Str) : Str := t.flatMap (fun c => if c = '\n' then ['\r', '\n'] else [c])

/-- the cleaned text of a doccomment block after its line ends were converted to CRLF, in terms of the cleaned text
    `t` of the LF block: every line end becomes `"\r\n"`, and the opening line leaves one extra first line `"\r"` -/
def crlfDoc (t : Str) : Str := '\r' :: '\n' :: crlfText t

theorem crlfText_nil : crlfText [] = [] := rfl

theorem crlfText_append (a b : Str) : crlfText (a ++ b) = crlfText a ++ crlfText b := by
  simp [crlfText]

theorem crlfText_cons_nl (cs : Str) : crlfText ('\n' :: cs) = '\r' :: '\n' :: crlfText cs := by
  simp [crlfText]

theorem crlfText_cons_of_ne (c : Char) (cs : Str) (h : c ≠ '\n') : crlfText (c :: cs) = c :: crlfText cs := by
  simp [crlfText, h]

theorem crlfText_of_noNl {l : Str} (h : '\n' ∉ l) : crlfText l = l := by
  induction l with
  | nil => rfl
  | cons c cs ih =>
    simp only [List.mem_cons, not_or] at h
    rw [crlfText_cons_of_ne c cs (Ne.symm h.1), ih h.2]

theorem crlfText_isEmpty (t : Str) : (crlfText t).isEmpty = t.isEmpty := by
  cases t with
  | nil => rfl
  | cons c cs =>
    by_cases h : c = '\n'
    · subst h; rw [crlfText_cons_nl]; rfl
    · rw [crlfText_cons_of_ne c cs h]; rfl

theorem noCr_crlfText (t : Str) : noCr (crlfText t) = noCr t := by
  induction t with
  | nil => rfl
  | cons c cs ih =>
    by_cases h : c = '\n'
    · subst h
      rw [crlfText_cons_nl, noCr_cons_cr, noCr_cons_of_ne _ _ (by decide), noCr_cons_of_ne _ _ (by decide), ih]
    · rw [crlfText_cons_of_ne c cs h]
      simp only [noCr, List.filter_cons] at ih ⊢
      rw [ih]

theorem noCr_crlfDoc (t : Str) : noCr (crlfDoc t) = '\n' :: noCr t := by
  rw [crlfDoc, ← crlfText_cons_nl, noCr_crlfText, noCr_cons_of_ne _ _ (by decide)]

theorem crlfText_joinNl (ls : List Str) (h : ∀ l ∈ ls, '\n' ∉ l) :
    crlfText (joinNl (ls ++ [[]])) = joinNl (ls.map (· ++ ['\r']) ++ [[]]) := by
  induction ls with
  | nil => rfl
  | cons l ls ih =>
    have ih' := ih (fun x hx => h x (List.mem_cons_of_mem _ hx))
    rw [List.cons_append, joinNl_cons l (by simp), List.map_cons, List.cons_append, joinNl_cons _ (by simp),
      crlfText_append, crlfText_cons_nl, ih', crlfText_of_noNl (h l (by simp))]
    simp

theorem crlfDoc_canonical (d : DocC) (hc : d.Canonical) :
    docTextOf (some { d with crlf := true }) = crlfDoc (docTextOf (some d)) := by
  obtain ⟨h1, h2⟩ := C04_crlf_partial d hc
  rw [h1, h2, crlfDoc, crlfText_joinNl d.lines hc.lines, List.cons_append, joinNl_cons _ (by simp)]
  rfl

/-- the side condition on a probe string (`kwargs_doc_trigger_string`, `:param p:`, `:type p:`): it contains no line
    break and does not end in `'\r'` -/
def ProbeOk (pat : Str) : Prop := '\n' ∉ pat ∧ pat.getLast? ≠ some '\r'

instance (pat : Str) : Decidable (ProbeOk pat) := inferInstanceAs (Decidable (_ ∧ _))

theorem ProbeOk.of_noCrNl {pat : Str} (hn : '\n' ∉ pat) (hr : '\r' ∉ pat) : ProbeOk pat := by
  refine ⟨hn, fun h => hr ?_⟩
  exact List.mem_of_getLast? h

theorem ProbeOk.tail {p : Char} {ps : Str} (h : ProbeOk (p :: ps)) : ProbeOk ps := by
  refine ⟨fun hm => h.1 (List.mem_cons_of_mem _ hm), ?_⟩
  cases ps with
  | nil => simp
  | cons q qs => simpa [List.getLast?_cons_cons] using h.2

theorem isPrefixOf_crlfText : ∀ (s pat : Str), ProbeOk pat → pat.isPrefixOf (crlfText s) = pat.isPrefixOf s
  | _, [], _ => by simp
  | [], _ :: _, _ => by simp [crlfText]
  | c :: cs, p :: ps, h => by
    by_cases hc : c = '\n'
    · subst hc
      -- in front of a `'\n'` only the empty probe matches, so in `"\r\n…"` only `"\r"` could, which ends in `'\r'`
      rw [crlfText_cons_nl, List.isPrefixOf_cons_cons, isPrefixOf_cons_nl_of_noNl h.tail.1,
        isPrefixOf_cons_nl_of_noNl h.1]
      cases ps with
      | nil => simpa using fun e => h.2 (by simp [e])
      | cons q qs => simp
    · rw [crlfText_cons_of_ne c cs hc, List.isPrefixOf_cons_cons, List.isPrefixOf_cons_cons,
        isPrefixOf_crlfText cs ps h.tail]

/-- converting line ends neither creates nor destroys an occurrence of the probe: an occurrence cannot span lines
    (no `'\n'` in the probe), and within a line only a trailing `'\r'` is new (the probe does not end in `'\r'`) -/
theorem isInfix_crlfText (pat : Str) (h : ProbeOk pat) (s : Str) : isInfix pat (crlfText s) = isInfix pat s := by
  induction s with
  | nil => rfl
  | cons c cs ih =>
    have hp := isPrefixOf_crlfText (c :: cs) pat h
    by_cases hc : c = '\n'
    · subst hc
      rw [crlfText_cons_nl] at hp ⊢
      simp only [isInfix, hp, ih, isPrefixOf_cons_nl_of_noNl h.1, Bool.or_self_left]
    · rw [crlfText_cons_of_ne c cs hc] at hp ⊢
      simp only [isInfix, hp, ih]

theorem isInfix_crlfDoc (pat : Str) (h : ProbeOk pat) (t : Str) : isInfix pat (crlfDoc t) = isInfix pat t := by
  rw [crlfDoc, ← crlfText_cons_nl, isInfix_crlfText pat h]
  cases pat with
  | nil => simp [isInfix_nil]
  | cons p ps => simp [isInfix, isPrefixOf_cons_nl_of_noNl h.1]

/-! ### the name of the module doccomment: the `'\r'` left on the opening line is stripped -/

theorem moduleName_cr (rest : Str) :
    stripWs (replaceAll (lit "@module") [] (rest ++ ['\r'])) = stripWs (replaceAll (lit "@module") [] rest) := by
  rw [replaceAll_append_singleton (lit "@module") [] litModule_ne_nil (by rw [litModule_eq]; decide),
    stripWs_concat_of_ws (c := '\r') (by decide)]

/-- a line break becomes CRLF; a line comment that carries its line end gets a CRLF one -/
def SepAtom.toCrlf : SepAtom → SepAtom
  | .nl _ => .nl true
  | .lineComment t (some _) => .lineComment t (some true)
  | a => a

def sepToCrlf (s : Sep) : Sep := s.map SepAtom.toCrlf

mutual
/-- argument tokens are kept verbatim (arguments with embedded line breaks are a separate matter) -/
def SArg.toCrlf : SArg → SArg
  | .tok pre t => .tok (sepToCrlf pre) t
  | .group pre args close => .group (sepToCrlf pre) (sargsToCrlf args) (sepToCrlf close)
def sargsToCrlf : List SArg → List SArg
  | [] => []
  | a :: as => a.toCrlf :: sargsToCrlf as
end

def Call.toCrlf (c : Call) : Call :=
  { c with pre := sepToCrlf c.pre, args := sargsToCrlf c.args, close := sepToCrlf c.close }

/-- the block with CRLF line ends (and CRLF line ends in the filler before it) -/
def DocC.toCrlf (d : DocC) : DocC := { d with pre := sepToCrlf d.pre, crlf := true }

mutual
def Item.toCrlf : Item → Item
  | .cmd doc call => .cmd (doc.map DocC.toCrlf) call.toCrlf
  | .block doc o body c => .block (doc.map DocC.toCrlf) o.toCrlf (itemsToCrlf body) c.toCrlf
  | .decl doc d i body c => .decl (doc.map DocC.toCrlf) d.toCrlf i.toCrlf (itemsToCrlf body) c.toCrlf
  | .dangling d => .dangling d.toCrlf
def itemsToCrlf : List Item → List Item
  | [] => []
  | i :: is => i.toCrlf :: itemsToCrlf is
end

/-- **the module with all its line ends converted to CRLF**: every line break between tokens, the line end of
    every line comment, and the line ends inside every doccomment block (of commands, blocks, declarations, dangling
    ones, and the module doccomment).  Argument texts and bracket-comment texts are kept. -/
def Module.toCrlf (m : Module) : Module :=
  { m with modDoc := m.modDoc.map DocC.toCrlf, items := itemsToCrlf m.items, tail := sepToCrlf m.tail }

mutual
theorem SArg.toCrlf_toArg : (a : SArg) → a.toCrlf.toArg = a.toArg
  | .tok _ _ => by simp [SArg.toCrlf, SArg.toArg]
  | .group _ args _ => by simp [SArg.toCrlf, SArg.toArg, sargsToCrlf_toArgs args]
theorem sargsToCrlf_toArgs : (as : List SArg) → toArgs (sargsToCrlf as) = toArgs as
  | [] => by simp [sargsToCrlf, toArgs]
  | a :: as => by simp [sargsToCrlf, toArgs, SArg.toCrlf_toArg a, sargsToCrlf_toArgs as]
end

@[simp] theorem Call.toCrlf_lname (c : Call) : c.toCrlf.lname = c.lname := rfl

theorem Call.toCrlf_sim (c : Call) : Call.Sim c c.toCrlf :=
  ⟨rfl, by simp [Call.toCrlf, sargsToCrlf_toArgs]⟩

theorem Call.toCrlf_args (c : Call) : c.toCrlf.toCmd.args = c.toCmd.args := c.toCrlf_sim.args.symm
theorem Call.toCrlf_singles (c : Call) : c.toCrlf.singles = c.singles := c.toCrlf_sim.singles.symm
theorem Call.toCrlf_allTexts (c : Call) : c.toCrlf.allTexts = c.allTexts := c.toCrlf_sim.allTexts.symm

theorem DocC.toCrlf_tokenText (d : DocC) : d.toCrlf.tokenText = { d with crlf := true }.tokenText := rfl

/-! What the specification reads of a tree besides the doc texts — `cmake_parse_arguments` calls, block balance, the
K1 guard — is the same for `toCrlf`: the converted tree is related to the tree (`Item.Rel`), with every doccomment
sent to its conversion, and these readings are invariant along `Item.Rel`. -/

mutual
theorem Item.toCrlf_rel_map : (i : Item) → i.Rel Call.Sim (fun d d' => d' = d.map DocC.toCrlf) i.toCrlf
  | .cmd _ c => ⟨rfl, c.toCrlf_sim⟩
  | .block _ o body c => ⟨rfl, o.toCrlf_sim, itemsToCrlf_rel_map body, c.toCrlf_sim⟩
  | .decl _ d i body c => ⟨rfl, d.toCrlf_sim, i.toCrlf_sim, itemsToCrlf_rel_map body, c.toCrlf_sim⟩
  | .dangling _ => rfl
theorem itemsToCrlf_rel_map : (is : List Item) → itemsRel Call.Sim (fun d d' => d' = d.map DocC.toCrlf) is (itemsToCrlf is)
  | [] => trivial
  | i :: is => ⟨Item.toCrlf_rel_map i, itemsToCrlf_rel_map is⟩
end

theorem Item.toCrlf_rel : (i : Item) → i.Rel Call.Sim (fun _ _ => True) i.toCrlf :=
  fun i => (Item.Rel.mono_both (fun _ _ h => h) (fun _ _ _ => trivial)).1 _ _ (Item.toCrlf_rel_map i)

theorem Item.toCrlf_cpaDirect : (i : Item) → i.toCrlf.cpaDirect = i.cpaDirect :=
  fun i => (cpaDirect_rel_both.1 _ _ (Item.toCrlf_rel_map i)).symm

theorem itemsToCrlf_cpaDirect (is : List Item) : itemsCpaDirect (itemsToCrlf is) = itemsCpaDirect is :=
  (cpaDirect_rel_both.2 _ _ (itemsToCrlf_rel_map is)).symm

theorem isSome_eq_of_toCrlf (d d' : Option DocC) (h : d' = d.map DocC.toCrlf) : d.isSome = d'.isSome := by
  rw [h, Option.isSome_map]

theorem Item.toCrlf_hasDocumentedClass : (i : Item) → i.toCrlf.hasDocumentedClass = i.hasDocumentedClass :=
  fun i => ((hasDocumentedClass_rel_both isSome_eq_of_toCrlf).1 _ _ (Item.toCrlf_rel_map i)).symm

theorem C04_crlf_wf (inClass : Bool) (is : List Item) : itemsWf inClass (itemsToCrlf is) = itemsWf inClass is :=
  (wf_rel_both.2 _ _ (itemsToCrlf_rel_map is) inClass).symm

/-- corresponding elements of two lists of the same length are related -/
inductive ListRel {α β : Type} (R : α → β → Prop) : List α → List β → Prop
  | nil : ListRel R [] []
  | cons {a : α} {b : β} {as : List α} {bs : List β} : R a b → ListRel R as bs → ListRel R (a :: as) (b :: bs)

/-- how the doc text of an entry changes: an undocumented entry keeps its empty text, the text of a documented one
    becomes `crlfDoc` of it -/
def DocRel (t t' : Str) : Prop := (t = [] ∧ t' = []) ∨ t' = crlfDoc t

/-- the same method with its doc text converted -/
def Method.Crlf (m m' : Method) : Prop := ∃ t', DocRel m.doc t' ∧ m' = { m with doc := t' }

/-- the same attribute with its doc text converted -/
def Attr.Crlf (a a' : Attr) : Prop := ∃ t', DocRel a.doc t' ∧ a' = { a with doc := t' }

/-- the same entry with its doc text — and the doc texts of its methods and attributes — converted; everything
    else (names, parameters, flags, values, …) identical.  The module doccomment's text has no extra first line
    (its opening line holds the name). -/
inductive Entry.Crlf : Entry → Entry → Prop
  | module {n t : Str} : Entry.Crlf (.module n t) (.module n (crlfText t))
  | func {m : Bool} {n t t' : Str} {ps : List Str} {kw : Bool} (h : DocRel t t') :
      Entry.Crlf (.func m n t ps kw) (.func m n t' ps kw)
  | var {n t t' : Str} {ty : VarType} {v : Option Str} (h : DocRel t t') : Entry.Crlf (.var n t ty v) (.var n t' ty v)
  | opt {n t t' help : Str} {d : Option Str} (h : DocRel t t') : Entry.Crlf (.opt n t help d) (.opt n t' help d)
  | generic {n t t' : Str} {args : List Str} (h : DocRel t t') : Entry.Crlf (.generic n t args) (.generic n t' args)
  | ctest {n t t' : Str} {ps : List Str} (h : DocRel t t') : Entry.Crlf (.ctest n t ps) (.ctest n t' ps)
  | test {s : Bool} {n t t' : Str} {ef : Bool} {ps : List Str} {m : Bool} (h : DocRel t t') :
      Entry.Crlf (.test s n t ef ps m) (.test s n t' ef ps m)
  | cls {n t t' : Str} {sup inner : List Str} {cs cs' ms ms' : List Method} {as as' : List Attr}
      (h : DocRel t t') (hc : ListRel Method.Crlf cs cs') (hm : ListRel Method.Crlf ms ms')
      (ha : ListRel Attr.Crlf as as') :
      Entry.Crlf (.cls n t sup inner cs ms as) (.cls n t' sup inner cs' ms' as')

theorem ListRel.map {α β γ δ : Type} {R : α → β → Prop} {S : γ → δ → Prop} {f : α → γ} {g : β → δ}
    {as : List α} {bs : List β} (h : ListRel R as bs) (hf : ∀ a ∈ as, ∀ b, R a b → S (f a) (g b)) :
    ListRel S (as.map f) (bs.map g) := by
  induction h with
  | nil => exact .nil
  | cons hab _ ih => exact .cons (hf _ (by simp) _ hab) (ih fun a ha => hf a (List.mem_cons_of_mem _ ha))

theorem ListRel.append {α β : Type} {R : α → β → Prop} {a : List α} {a' : List β} {b : List α} {b' : List β}
    (h₁ : ListRel R a a') (h₂ : ListRel R b b') : ListRel R (a ++ b) (a' ++ b') := by
  induction h₁ with
  | nil => exact h₂
  | cons h _ ih => exact .cons h ih

/-- what a list of items contributes, related field by field -/
structure Contrib.Crlf (a b : Contrib) : Prop where
  top : ListRel Entry.Crlf a.top b.top
  inner : b.inner = a.inner
  ctors : ListRel Method.Crlf a.ctors b.ctors
  members : ListRel Method.Crlf a.members b.members
  attrs : ListRel Attr.Crlf a.attrs b.attrs

theorem Contrib.Crlf.nil : Contrib.Crlf {} {} := ⟨.nil, rfl, .nil, .nil, .nil⟩

theorem Contrib.Crlf.ite {c : Prop} [Decidable c] {a b a' b' : Contrib} (h₁ : Contrib.Crlf a a')
    (h₂ : Contrib.Crlf b b') : Contrib.Crlf (if c then a else b) (if c then a' else b') := by
  split
  · exact h₁
  · exact h₂

theorem Contrib.Crlf.append {a b a' b' : Contrib} (h₁ : Contrib.Crlf a a') (h₂ : Contrib.Crlf b b') :
    Contrib.Crlf (a ++ b) (a' ++ b') :=
  ⟨ListRel.append h₁.top h₂.top, by show a'.inner ++ b'.inner = a.inner ++ b.inner; rw [h₁.inner, h₂.inner],
   ListRel.append h₁.ctors h₂.ctors, ListRel.append h₁.members h₂.members, ListRel.append h₁.attrs h₂.attrs⟩

theorem Contrib.Crlf.single {e e' : Entry} (h : Entry.Crlf e e') : Contrib.Crlf { top := [e] } { top := [e'] } :=
  ⟨.cons h .nil, rfl, .nil, .nil, .nil⟩

theorem Contrib.Crlf.attr {x x' : Attr} (h : Attr.Crlf x x') : Contrib.Crlf { attrs := [x] } { attrs := [x'] } :=
  ⟨.nil, rfl, .nil, .nil, .cons h .nil⟩

theorem Contrib.Crlf.ctor {x x' : Method} (h : Method.Crlf x x') : Contrib.Crlf { ctors := [x] } { ctors := [x'] } :=
  ⟨.nil, rfl, .cons h .nil, .nil, .nil⟩

theorem Contrib.Crlf.member {x x' : Method} (h : Method.Crlf x x') :
    Contrib.Crlf { members := [x] } { members := [x'] } :=
  ⟨.nil, rfl, .nil, .cons h .nil, .nil⟩

theorem Contrib.Crlf.topOnly {a a' : Contrib} (h : Contrib.Crlf a a') : Contrib.Crlf { top := a.top } { top := a'.top } :=
  ⟨h.top, rfl, .nil, .nil, .nil⟩

theorem Contrib.Crlf.cls {n t t' : Str} {sup inn : List Str} {b b' : Contrib} (hd : DocRel t t') (hb : Contrib.Crlf b b') :
    Contrib.Crlf { top := .cls n t sup b.inner b.ctors b.members b.attrs :: b.top, inner := inn }
      { top := .cls n t' sup b'.inner b'.ctors b'.members b'.attrs :: b'.top, inner := inn } := by
  refine ⟨.cons ?_ hb.top, rfl, .nil, .nil, .nil⟩
  rw [hb.inner]
  exact .cls hd hb.ctors hb.members hb.attrs

/-- an optional doccomment is canonical (`DocC.Canonical`, `C04.lean`) when present -/
def docOptCanonical : Option DocC → Prop
  | some d => d.Canonical
  | none => True

mutual
/-- every doccomment that documents a command, a block or a declaration is canonical (dangling doccomments are
    not constrained: they never reach the output) -/
def Item.docsCanonical : Item → Prop
  | .cmd doc _ => docOptCanonical doc
  | .block doc _ body _ => docOptCanonical doc ∧ itemsDocsCanonical body
  | .decl doc _ _ body _ => docOptCanonical doc ∧ itemsDocsCanonical body
  | .dangling _ => True
def itemsDocsCanonical : List Item → Prop
  | [] => True
  | i :: is => i.docsCanonical ∧ itemsDocsCanonical is
end

theorem docRel_of_canonical (doc : Option DocC) (h : docOptCanonical doc) :
    DocRel (docTextOf doc) (docTextOf (doc.map DocC.toCrlf)) := by
  cases doc with
  | none => exact Or.inl ⟨rfl, rfl⟩
  | some d => exact Or.inr (crlfDoc_canonical d h)

theorem DocRel.isInfix {t t' : Str} (h : DocRel t t') (pat : Str) (hp : ProbeOk pat) : isInfix pat t' = isInfix pat t := by
  rcases h with ⟨rfl, rfl⟩ | rfl
  · rfl
  · exact isInfix_crlfDoc pat hp t

theorem defEntry_crlf (cfg : Cfg) (htr : ProbeOk cfg.trigger) (isMacro : Bool) (doc : Option DocC)
    (h : docOptCanonical doc) (o : Call) (body : List Item) :
    Entry.Crlf (defEntry cfg isMacro doc o body)
      (defEntry cfg isMacro (doc.map DocC.toCrlf) o.toCrlf (itemsToCrlf body)) := by
  have hd := docRel_of_canonical doc h
  simp only [defEntry, Call.toCrlf_singles, itemsToCrlf_cpaDirect, hd.isInfix cfg.trigger htr]
  exact .func hd

mutual
theorem Item.spec_crlf (cfg : Cfg) (htr : ProbeOk cfg.trigger) (ctx : ClsCtx) :
    (i : Item) → i.docsCanonical → Contrib.Crlf (i.spec cfg ctx) (i.toCrlf.spec cfg ctx)
  | .cmd doc call, h => by
    have hd := docRel_of_canonical doc h
    simp only [Item.toCrlf, Item.spec, Call.toCrlf_lname, Call.toCrlf_singles, Call.toCrlf_allTexts, Call.toCrlf_args,
      Option.isSome_map]
    -- both sides are the same tree of conditions (`Item.spec`); the leaves differ in the doc text only
    exact .ite (.ite (.single (by split <;> exact .var hd)) .nil)
      (.ite (.ite (.single (.opt hd)) .nil)
      (.ite (.ite (.single (.ctest hd)) .nil)
      (.ite (.ite (.attr ⟨_, hd, rfl⟩) .nil)
      (.ite .nil (.ite (.single (.generic hd)) .nil)))))
  | .block doc o body c, h => by
    have hd := docRel_of_canonical doc h.1
    have hdef := fun b => defEntry_crlf cfg htr b doc h.1 o body
    have ih := fun ctx' => itemsSpec_crlf cfg htr ctx' body h.2
    simp only [Item.toCrlf, Item.spec, Call.toCrlf_lname, Call.toCrlf_singles, Call.toCrlf_args, Option.isSome_map]
    exact .ite ((Contrib.Crlf.ite (.single (hdef _)) .nil).append (ih _))
      (.ite (.ite (.cls hd (ih _)) (.topOnly (ih _)))
        ((Contrib.Crlf.ite (.single (.generic hd)) .nil).append (ih _)))
  | .decl doc d i body c, h => by
    have hd := docRel_of_canonical doc h.1
    have hdef := fun b => defEntry_crlf cfg htr b none trivial i body
    have ih := fun ctx' => itemsSpec_crlf cfg htr ctx' body h.2
    simp only [Item.toCrlf, Item.spec, Call.toCrlf_lname, Call.toCrlf_singles, Option.isSome_map]
    exact (Contrib.Crlf.ite (.ite (.single (.test hd)) (.ite (.single (hdef _)) .nil))
      (.ite (.ite (.ctor ⟨_, hd, rfl⟩) (.member ⟨_, hd, rfl⟩)) (.ite (.single (hdef _)) .nil))).append (ih _)
  | .dangling _, _ => Contrib.Crlf.nil
theorem itemsSpec_crlf (cfg : Cfg) (htr : ProbeOk cfg.trigger) (ctx : ClsCtx) :
    (is : List Item) → itemsDocsCanonical is → Contrib.Crlf (itemsSpec cfg ctx is) (itemsSpec cfg ctx (itemsToCrlf is))
  | [], _ => Contrib.Crlf.nil
  | i :: is, h => by
    simp only [itemsToCrlf, itemsSpec]
    exact (Item.spec_crlf cfg htr ctx i h.1).append (itemsSpec_crlf cfg htr ctx is h.2)
end

/-- the module doccomment in the prescribed form: `#`-led body lines, LF line ends, `#[[[<blanks>@module<rest>` on the
    opening line, indentation of blanks and tabs, no line break inside a line text -/
structure DocC.ModCanonical (d : DocC) : Prop where
  leader : d.leader = true
  lf : d.crlf = false
  ind : IndOk d.ind
  opening : ∃ sp rest, d.openSuffix = sp ++ lit "@module" ++ rest ∧ IndOk sp ∧ NoNl rest
  lines : ∀ t ∈ d.lines, NoNl t

/-- all doccomments that reach the output are in the prescribed form -/
def Module.docsCanonical (m : Module) : Prop :=
  (∀ d, m.modDoc = some d → d.ModCanonical) ∧ itemsDocsCanonical m.items

theorem moduleNameDoc_crlf (d : DocC) (hc : d.ModCanonical) :
    moduleNameDoc d.toCrlf.tokenText = ((moduleNameDoc d.tokenText).1, crlfText (moduleNameDoc d.tokenText).2) := by
  obtain ⟨sp, rest, ho, hsp, hr⟩ := hc.opening
  obtain ⟨h1, h2⟩ := C04_crlf_module_partial d sp rest hc.leader hc.lf hc.ind ho hsp hr hc.lines
  rw [d.toCrlf_tokenText, h1, h2, moduleName_cr, crlfText_joinNl d.lines hc.lines]

/-- **C04, CRLF half, entries**: converting every line end of a module with canonical doccomments to CRLF changes
    the expected `documented` list in the doc texts only, and there exactly by `crlfDoc` (`crlfText` for the module
    doccomment) — provided the `kwargs_doc_trigger_string` contains no line break and does not end in `'\r'`, so that
    the `**kwargs` flags are unchanged. -/
theorem C04_crlf_entries (cfg : Cfg) (htr : ProbeOk cfg.trigger) (m : Module) (hc : m.docsCanonical) :
    ListRel Entry.Crlf (m.entries cfg) (m.toCrlf.entries cfg) := by
  rw [C02_entries, C02_entries]
  refine ListRel.append ?_ (itemsSpec_crlf cfg htr .none m.items hc.2).top
  simp only [Module.toCrlf]
  cases hm : m.modDoc with
  | none => exact .nil
  | some d =>
    simp only [Option.map_some, moduleNameDoc_crlf d (hc.1 d hm)]
    exact .cons .module .nil

theorem C04_crlf_guards (m : Module) :
    itemsWf false m.toCrlf.items = itemsWf false m.items ∧
      itemsHaveDocumentedClass m.toCrlf.items = itemsHaveDocumentedClass m.items :=
  ⟨C04_crlf_wf false m.items,
   ((hasDocumentedClass_rel_both isSome_eq_of_toCrlf).2 _ _ (itemsToCrlf_rel_map m.items)).symm⟩

/-- two paragraph texts that agree up to `'\r'` characters and one leading empty line -/
def ParaRel (t t' : Str) : Prop := noCr t' = noCr t ∨ noCr t' = '\n' :: noCr t

theorem DocRel.para {t t' : Str} (h : DocRel t t') : ParaRel t t' := by
  rcases h with ⟨rfl, rfl⟩ | rfl
  · exact Or.inl rfl
  · exact Or.inr (noCr_crlfDoc t)

mutual
/-- the same element tree up to `ParaRel` on paragraph texts.  This "Crlf" is weaker than that of `DocRel`, `Entry.Crlf`,
    `Method.Crlf`, `Contrib.Crlf`, where a doc text is exactly `crlfDoc` of the other: it is what remains of them on the
    rendered elements (`Entry.Crlf.toElem`), and enough for equal normalised lines (`ElemCrlf.normT_eq`). -/
def ElemCrlf : Elem → Elem → Prop
  | .para t, e' => ∃ t', ParaRel t t' ∧ e' = .para t'
  | .field n t, e' => e' = .field n t
  | .list en it, e' => e' = .list en it
  | .directive n a o b, e' => ∃ b', ElemsCrlf b b' ∧ e' = .directive n a o b'
def ElemsCrlf : List Elem → List Elem → Prop
  | [], es' => es' = []
  | e :: es, es' => ∃ e' es'', ElemCrlf e e' ∧ ElemsCrlf es es'' ∧ es' = e' :: es''
end

theorem ElemCrlf.ofPara {t t' : Str} (h : ParaRel t t') : ElemCrlf (.para t) (.para t') := ⟨t', h, rfl⟩

theorem ElemCrlf.dir {n : Str} {a : List Str} {o : List (Str × Str)} {b b' : List Elem} (h : ElemsCrlf b b') :
    ElemCrlf (.directive n a o b) (.directive n a o b') := ⟨b', h, rfl⟩

theorem ElemsCrlf.nil : ElemsCrlf [] [] := rfl

theorem ElemsCrlf.cons {e e' : Elem} {es es' : List Elem} (h₁ : ElemCrlf e e') (h₂ : ElemsCrlf es es') :
    ElemsCrlf (e :: es) (e' :: es') := ⟨e', es', h₁, h₂, rfl⟩

mutual
theorem ElemCrlf.refl : (e : Elem) → ElemCrlf e e
  | .para _ => .ofPara (Or.inl rfl)
  | .field _ _ => rfl
  | .list _ _ => rfl
  | .directive _ _ _ b => .dir (ElemsCrlf.refl b)
theorem ElemsCrlf.refl : (es : List Elem) → ElemsCrlf es es
  | [] => .nil
  | e :: es => .cons (ElemCrlf.refl e) (ElemsCrlf.refl es)
end

theorem ElemsCrlf.append : ∀ {a a' b b' : List Elem}, ElemsCrlf a a' → ElemsCrlf b b' → ElemsCrlf (a ++ b) (a' ++ b')
  | [], _, _, _, rfl, h₂ => h₂
  | _ :: _, _, _, _, ⟨_, _, he, hes, rfl⟩, h₂ => .cons he (ElemsCrlf.append hes h₂)

theorem ElemsCrlf.isEmpty : ∀ {a a' : List Elem}, ElemsCrlf a a' → a'.isEmpty = a.isEmpty
  | [], _, rfl => rfl
  | _ :: _, _, ⟨_, _, _, _, rfl⟩ => rfl

/-- the normalised lines of tagged lines placed at depth `d` -/
def normT (d : Nat) (ls : List (Bool × Str)) : List Str := normLines (ls.map (place d))

theorem normT_append (d : Nat) (a b : List (Bool × Str)) : normT d (a ++ b) = normT d a ++ normT d b := by
  simp [normT, normLines_append]

theorem normT_shift (d : Nat) (ls : List (Bool × Str)) : normT d (shiftT ls) = normT (d + 1) ls :=
  congrArg normLines (C07_place_shift d ls)

theorem noCr_indent (d : Nat) : noCr (indent d) = indent d := by
  simp [noCr, indent]

theorem isBlankLine_indent (d : Nat) : isBlankLine (indent d) = true := by
  simp [isBlankLine, indent]

/-- the normalised lines of a paragraph at depth `d`, from its text without `'\r'` -/
def paraNorm (d : Nat) (u : Str) : List Str :=
  ((splitNl u).map (indent d ++ ·)).filter (fun l => !isBlankLine l)

theorem normT_para (d : Nat) (t : Str) : normT d (Elem.para t).tlines = paraNorm d (noCr t) := by
  rw [normT, C01_place_para, normLines, paraNorm, splitNl_noCr, List.map_map, List.map_map]
  simp only [Function.comp_def, noCr_append, noCr_indent]

/-- a leading empty line of a paragraph becomes the whitespace-only line `indent d` and is dropped -/
theorem paraNorm_nl (d : Nat) (u : Str) : paraNorm d ('\n' :: u) = paraNorm d u := by
  simp [paraNorm, splitNl_cons_nl, isBlankLine_indent]

mutual
theorem ElemCrlf.normT_eq : (e e' : Elem) → ElemCrlf e e' → ∀ d, normT d e'.tlines = normT d e.tlines
  | .para t, _, ⟨t', hp, rfl⟩, d => by
    rw [normT_para, normT_para]
    rcases hp with hp | hp
    · rw [hp]
    · rw [hp, paraNorm_nl]
  | .field _ _, _, rfl, _ => rfl
  | .list _ _, _, rfl, _ => rfl
  | .directive n a o b, _, ⟨b', hb, rfl⟩, d => by
    simp only [Elem.tlines, hb.isEmpty, normT_append, normT_shift, ElemsCrlf.normT_eq b b' hb (d + 1)]
theorem ElemsCrlf.normT_eq : (es es' : List Elem) → ElemsCrlf es es' → ∀ d, normT d (tlinesList es') = normT d (tlinesList es)
  | [], _, rfl, _ => rfl
  | e :: es, _, ⟨e', es'', h₁, h₂, rfl⟩, d => by
    simp only [tlinesList, normT_append, ElemCrlf.normT_eq e e' h₁ d, ElemsCrlf.normT_eq es es'' h₂ d]
end

theorem probeOk_field (pfx p : Str) (hx : '\n' ∉ pfx) (hp : '\n' ∉ p) : ProbeOk (pfx ++ p ++ [':']) := by
  refine ⟨by simp [hx, hp], ?_⟩
  rw [List.getLast?_append]
  simp

theorem methodFields_docRel {t t' : Str} (h : DocRel t t') :
    ∀ (tys ps : List Str), (∀ p ∈ ps, '\n' ∉ p) → methodFields t' tys ps = methodFields t tys ps
  | ty :: tys, p :: ps, hp => by
    have hp' : '\n' ∉ p := hp p (by simp)
    have h1 := h.isInfix _ (probeOk_field (lit ":param ") p (not_mem_lit_of (by decide)) hp')
    have h2 := h.isInfix _ (probeOk_field (lit ":type ") p (not_mem_lit_of (by decide)) hp')
    simp only [methodFields, h1, h2, methodFields_docRel h tys ps (fun q hq => hp q (List.mem_cons_of_mem _ hq))]
  | [], _, _ => by simp [methodFields]
  | _ :: _, [], _ => by simp [methodFields]

theorem Method.Crlf.toElem {m m' : Method} (h : Method.Crlf m m') (hp : ∀ p ∈ m.params, '\n' ∉ p) :
    ElemCrlf m.toElem m'.toElem := by
  obtain ⟨t', hd, rfl⟩ := h
  simp only [Method.toElem, methodFields_docRel hd m.paramTypes m.params hp]
  exact .dir (.append (.append (ElemsCrlf.refl _) (.cons (.ofPara hd.para) .nil)) (ElemsCrlf.refl _))

theorem Attr.Crlf.toElem {a a' : Attr} (h : Attr.Crlf a a') : ElemCrlf a.toElem a'.toElem := by
  obtain ⟨t', hd, rfl⟩ := h
  exact .dir (.cons (.ofPara hd.para) .nil)

theorem ListRel.toElems {α : Type} {R : α → α → Prop} {f : α → Elem} {as as' : List α} (h : ListRel R as as')
    (hf : ∀ a ∈ as, ∀ a', R a a' → ElemCrlf (f a) (f a')) : ElemsCrlf (as.map f) (as'.map f) := by
  induction h with
  | nil => exact .nil
  | cons hab _ ih => exact .cons (hf _ (by simp) _ hab) (ih fun a ha => hf a (List.mem_cons_of_mem _ ha))

theorem section_crlf (title : Str) {xs xs' : List Elem} (h : ElemsCrlf xs xs') :
    ElemsCrlf (section? title xs) (section? title xs') := by
  simp only [section?, h.isEmpty]
  split
  · exact .nil
  · exact .cons (ElemCrlf.refl _) h

theorem Entry.Crlf.toElem {e e' : Entry} (h : Entry.Crlf e e') (ho : e.OneLine) : ElemCrlf e.toElem e'.toElem := by
  cases h with
  | @module n t =>
    simp only [Entry.toElem, crlfText_isEmpty]
    refine .dir ?_
    split
    · exact .nil
    · exact .cons (.ofPara (Or.inl (noCr_crlfText t))) .nil
  | func hd => exact .dir (.append (ElemsCrlf.refl _) (.cons (.ofPara hd.para) .nil))
  | var hd => exact .dir (.cons (.ofPara hd.para) (ElemsCrlf.refl _))
  | opt hd => exact .dir (.cons (ElemCrlf.refl _) (.cons (.ofPara hd.para) (ElemsCrlf.refl _)))
  | generic hd | ctest hd | test hd => exact .dir (.cons (ElemCrlf.refl _) (.cons (.ofPara hd.para) .nil))
  | cls hd hc hm ha =>
    obtain ⟨-, -, hoc, hom, -⟩ := ho
    refine .dir (.append (.append (.append (.append (.append (ElemsCrlf.refl _) (.cons (.ofPara hd.para) .nil)) ?_) ?_) ?_)
      (ElemsCrlf.refl _))
    · exact section_crlf _ (hc.toElems fun m hm _ hr => hr.toElem (hoc m hm).2.1)
    · exact section_crlf _ (hm.toElems fun m hm' _ hr => hr.toElem (hom m hm').2.1)
    · exact section_crlf _ (ha.toElems fun _ _ _ hr => hr.toElem)

theorem ListRel.forall_right {α β : Type} {R : α → β → Prop} {P : α → Prop} {Q : β → Prop} {as : List α} {bs : List β}
    (h : ListRel R as bs) (hR : ∀ a b, R a b → P a → Q b) (hP : ∀ a ∈ as, P a) : ∀ b ∈ bs, Q b := by
  induction h with
  | nil => intro b hb; simp at hb
  | cons hab _ ih =>
    intro b hb
    rcases List.mem_cons.1 hb with rfl | hb
    · exact hR _ _ hab (hP _ (by simp))
    · exact ih (fun a ha => hP a (List.mem_cons_of_mem _ ha)) b hb

theorem Method.Crlf.oneLine {m m' : Method} (h : Method.Crlf m m') (ho : m.OneLine) : m'.OneLine := by
  obtain ⟨t', _, rfl⟩ := h; exact ho

theorem Attr.Crlf.oneLine {a a' : Attr} (h : Attr.Crlf a a') (ho : a.OneLine) : a'.OneLine := by
  obtain ⟨t', _, rfl⟩ := h; exact ho

theorem Entry.Crlf.oneLine {e e' : Entry} (h : Entry.Crlf e e') (ho : e.OneLine) : e'.OneLine := by
  cases h with
  | cls hd hc hm ha =>
    obtain ⟨h1, h2, h3, h4, h5⟩ := ho
    exact ⟨h1, h2, hc.forall_right (fun _ _ => Method.Crlf.oneLine) h3,
      hm.forall_right (fun _ _ => Method.Crlf.oneLine) h4, ha.forall_right (fun _ _ => Attr.Crlf.oneLine) h5⟩
  | _ => exact ho

theorem Entry.Crlf.isModule {e e' : Entry} (h : Entry.Crlf e e') : isModule e' = isModule e := by
  cases h <;> rfl

theorem Entry.Crlf.nameModule {e e' : Entry} (modName : Str) (h : Entry.Crlf e e') :
    Entry.Crlf (nameModule modName e) (nameModule modName e') := by
  cases h with
  | @module n t =>
    simp only [Cminx.nameModule]
    split <;> exact .module
  | cls hd hc hm ha => exact .cls hd hc hm ha
  | func hd | var hd | opt hd | generic hd | ctest hd | test hd =>
    -- `nameModule` leaves these kinds alone
    constructor
    exact hd

theorem ListRel.any_isModule {es es' : List Entry} (h : ListRel Entry.Crlf es es') :
    es'.any isModule = es.any isModule := by
  induction h with
  | nil => rfl
  | cons hab _ ih => simp only [List.any_cons, hab.isModule, ih]

theorem ListRel.titleOf {es es' : List Entry} (h : ListRel Entry.Crlf es es') (title : Str) :
    titleOf title es' = titleOf title es := by
  induction h generalizing title with
  | nil => rfl
  | cons hab _ ih =>
    cases hab <;> simp only [Cminx.titleOf, ih]

theorem renderedDocs_crlf (modName : Str) {es es' : List Entry} (h : ListRel Entry.Crlf es es') :
    ListRel Entry.Crlf (renderedDocs modName es) (renderedDocs modName es') := by
  simp only [renderedDocs, h.any_isModule]
  refine ListRel.map (R := Entry.Crlf) ?_ fun _ _ _ hr => hr.nameModule modName
  split
  · exact h
  · exact .cons (.module (t := [])) h

/-- The page half of `C04_crlf_page`, on any two `documented` lists related by `Entry.Crlf`; `C04_crlf_entries` is the
    other half, the relation between the lists of `m` and `m.toCrlf`. -/
theorem C04_crlf_pages (hc title modName : Str) (hm : '\n' ∉ modName) {es es' : List Entry}
    (h : ListRel Entry.Crlf es es') (ho : ∀ e ∈ es, e.OneLine) :
    normPage (processDocs hc title modName es').render = normPage (processDocs hc title modName es).render := by
  have ho' : ∀ e ∈ es', e.OneLine := h.forall_right (fun _ _ => Entry.Crlf.oneLine) ho
  have hr := renderedDocs_crlf modName h
  have hel := hr.toElems fun e he _ h' => h'.toElem (renderedDocs_oneLine modName hm es ho e he)
  have hn := ElemsCrlf.normT_eq _ _ hel 0
  rw [normPage_eq, normPage_eq, C07_page_lines hc title modName es' hm ho', C07_page_lines hc title modName es hm ho,
    normLines_append, normLines_append, h.titleOf title]
  congr 1
  rw [← map_place_zero, ← map_place_zero]
  exact hn

/-- **C04, CRLF half, at the level of the generated page.**  `m`: a valid, well-formed module (outside K1) all of
    whose doccomments are canonical; `m.toCrlf`: the same module with every line end converted to CRLF (valid as
    well).  If the trigger string contains no line break and does not end in `'\r'` and the argument values that
    the templates put on one line contain no line break, then both files are processed to a page, and the two pages
    are equal after deleting every `'\r'` and dropping the whitespace-only lines. -/
theorem C04_crlf_page (cfg : Cfg) (hc : Str) (hs : List Str) (title modName : Str) (m : Module)
    (hv : m.valid = true) (hv' : m.toCrlf.valid = true) (hwf : itemsWf false m.items = true)
    (hk1 : cfg.inclCppClass = true ∨ itemsHaveDocumentedClass m.items = false)
    (hcan : m.docsCanonical) (htr : ProbeOk cfg.trigger) (hm : '\n' ∉ modName)
    (hone : ∀ e ∈ m.entries cfg, e.OneLine) :
    ∃ out out', pipeline cfg (hc :: hs) title modName m.render = .ok out ∧
      pipeline cfg (hc :: hs) title modName m.toCrlf.render = .ok out' ∧ normPage out' = normPage out := by
  obtain ⟨g1, g2⟩ := C04_crlf_guards m
  refine ⟨_, _, T_pipeline cfg hc hs title modName m hv hwf hk1,
    T_pipeline cfg hc hs title modName m.toCrlf hv' (g1 ▸ hwf) (g2 ▸ hk1), ?_⟩
  exact C04_crlf_pages hc title modName hm (C04_crlf_entries cfg htr m hcan) hone

/-! ## `Module.toCrlf` converts the file text and keeps it valid

`Module.lfPlain`: every line end is LF and no raw text (comment text, argument text, doccomment line, name) contains
a line break.  For such a module the printed text of `m.toCrlf` is the printed text of `m` with every `'\n'` replaced
by `"\r\n"` (`C04_crlf_render`), and if the text contains no `'\r'` the converted module is valid again
(`C04_crlf_valid`; `Module.valid`, `TLex.lean`, judges every token and filler atom in the context of the text that
follows it). -/

def noNlB (s : Str) : Bool := !s.contains '\n'

theorem noNl_of_noNlB {s : Str} (h : noNlB s = true) : '\n' ∉ s := by
  simpa [noNlB] using h

def SepAtom.lfPlain : SepAtom → Bool
  | .spaces _ => true
  | .tabs _ => true
  | .nl crlf => !crlf
  | .lineComment t eol => noNlB t && eol != some true
  | .bracketComment _ t => noNlB t

def sepLfPlain : Sep → Bool
  | [] => true
  | a :: as => a.lfPlain && sepLfPlain as

def ArgTok.lfPlain : ArgTok → Bool
  | .bare s => noNlB s
  | .quoted s => noNlB s
  | .bracket _ s => noNlB s

mutual
def SArg.lfPlain : SArg → Bool
  | .tok pre t => sepLfPlain pre && t.lfPlain
  | .group pre args close => sepLfPlain pre && sargsLfPlain args && sepLfPlain close
def sargsLfPlain : List SArg → Bool
  | [] => true
  | a :: as => a.lfPlain && sargsLfPlain as
end

def Call.lfPlain (c : Call) : Bool := sepLfPlain c.pre && noNlB c.name && sargsLfPlain c.args && sepLfPlain c.close

def DocC.lfPlain (d : DocC) : Bool :=
  sepLfPlain d.pre && noNlB d.ind && noNlB d.openSuffix && d.lines.all noNlB && !d.crlf

def docOptLfPlain : Option DocC → Bool
  | some d => d.lfPlain
  | none => true

mutual
def Item.lfPlain : Item → Bool
  | .cmd doc call => docOptLfPlain doc && call.lfPlain
  | .block doc o body c => docOptLfPlain doc && o.lfPlain && itemsLfPlain body && c.lfPlain
  | .decl doc d i body c => docOptLfPlain doc && d.lfPlain && i.lfPlain && itemsLfPlain body && c.lfPlain
  | .dangling d => d.lfPlain
def itemsLfPlain : List Item → Bool
  | [] => true
  | i :: is => i.lfPlain && itemsLfPlain is
end

/-- an LF file: every line end is LF, and no comment text, argument text, doccomment line or name contains a line
    break of its own -/
def Module.lfPlain (m : Module) : Bool := docOptLfPlain m.modDoc && itemsLfPlain m.items && sepLfPlain m.tail

theorem noNl_bracketOpen (lvl : Nat) : '\n' ∉ bracketOpen lvl := by
  have := @noNl_replicate lvl '=' (by decide)
  simp [bracketOpen, this]

theorem noNl_bracketClose (lvl : Nat) : '\n' ∉ bracketClose lvl := by
  have := @noNl_replicate lvl '=' (by decide)
  simp [bracketClose, this]

theorem ArgTok.text_noNl (t : ArgTok) (h : t.lfPlain = true) : '\n' ∉ t.text := by
  cases t with
  | bare s => exact noNl_of_noNlB h
  | quoted s => have := noNl_of_noNlB (s := s) h; simp [ArgTok.text, this]
  | bracket lvl s =>
    have := noNl_of_noNlB (s := s) h
    have h1 := noNl_bracketOpen lvl
    have h2 := noNl_bracketClose lvl
    simp [ArgTok.text, this, h1, h2]

theorem crlfText_flatten (ls : List Str) : crlfText ls.flatten = (ls.map crlfText).flatten := by
  induction ls with
  | nil => rfl
  | cons l ls ih => simp only [List.flatten_cons, List.map_cons, crlfText_append, ih]

theorem DocC.lines_toCrlf (d : DocC) (hi : '\n' ∉ d.ind) (hl : ∀ t ∈ d.lines, '\n' ∉ t) :
    (d.lines.map (fun t => d.bodyLine t ++ eolStr false)).map crlfText
      = d.lines.map (fun t => d.toCrlf.bodyLine t ++ eolStr true) := by
  rw [List.map_map]
  apply List.map_congr_left
  intro t ht
  simp only [Function.comp, crlfText_append, crlfText_of_noNl (d.bodyLine_noNl t hi (hl t ht))]
  rfl

theorem DocC.inner_toCrlf (d : DocC) (h : d.lfPlain = true) : d.toCrlf.inner = crlfText d.inner := by
  simp only [DocC.lfPlain, Bool.and_eq_true, Bool.not_eq_true', List.all_eq_true] at h
  obtain ⟨⟨⟨⟨-, hind⟩, hopen⟩, hlines⟩, hlf⟩ := h
  have hi := noNl_of_noNlB hind
  simp only [DocC.inner, hlf, crlfText_append, crlfText_flatten,
    d.lines_toCrlf hi (fun t ht => noNl_of_noNlB (hlines t ht)), crlfText_of_noNl hi,
    crlfText_of_noNl (noNl_of_noNlB hopen)]
  rfl

theorem DocC.tokenText_toCrlf (d : DocC) (h : d.lfPlain = true) : d.toCrlf.tokenText = crlfText d.tokenText := by
  have hstart : '\n' ∉ docStart := by rw [docStart_eq]; decide
  have hend : '\n' ∉ docEnd := by rw [docEnd_eq]; decide
  rw [DocC.tokenText_eq_inner, DocC.tokenText_eq_inner, d.inner_toCrlf h, crlfText_append, crlfText_append,
    crlfText_of_noNl hstart, crlfText_of_noNl hend]

theorem findAfter_crlfText_none (pat : Str) (hp : ProbeOk pat) (s : Str) (h : findAfter pat s = none) :
    findAfter pat (crlfText s) = none := by
  rw [findAfter_eq_none_iff, ← isInfix_iff] at h ⊢
  rwa [isInfix_crlfText pat hp]

theorem findAfter_end_crlfText (p : Str) (c : Char) (hp : ProbeOk (p ++ [c])) (X : Str)
    (h : findAfter (p ++ [c]) (X ++ (p ++ [c])) = some (X.length + (p.length + 1))) :
    findAfter (p ++ [c]) (crlfText X ++ (p ++ [c])) = some ((crlfText X).length + (p.length + 1)) := by
  have e : crlfText X ++ p = crlfText (X ++ p) := by
    rw [crlfText_append, crlfText_of_noNl fun h' => hp.1 (List.mem_append_left _ h')]
  rw [findAfter_end_iff, ← isInfix_iff] at h ⊢
  rwa [e, isInfix_crlfText _ hp]

theorem stopHead_crlfText (s : Str) : stopHead (crlfText s) = stopHead s := by
  cases s with
  | nil => rfl
  | cons c cs =>
    by_cases hc : c = '\n'
    · subst hc; rw [crlfText_cons_nl]; rfl
    · rw [crlfText_cons_of_ne c cs hc]; rfl

theorem startsWithEol_crlfText (s : Str) (hcr : '\r' ∉ s) (h : startsWithEol s = true) :
    startsWithEol (crlfText s) = true := by
  unfold startsWithEol at h
  split at h
  · rw [crlfText_cons_nl]; rfl
  · exact absurd List.mem_cons_self hcr
  · cases h

theorem probeOk_docEnd : ProbeOk docEnd := by decide +kernel

theorem ArgTok.valid_crlfText (t : ArgTok) (follow : Str) (hv : t.valid follow = true) :
    t.valid (crlfText follow) = true := by
  cases t <;> simpa only [ArgTok.valid, stopHead_crlfText] using hv

theorem not_mem_of_append_right {c : Char} {a b : Str} (h : c ∉ a ++ b) : c ∉ b :=
  fun hb => h (List.mem_append_right a hb)

/-! ### pieces in their context

A printed piece is its text `r` and its judgement `v follow` in front of the text `follow`.  `render` and `valid`
build every construct from its parts by the same sequencing: the texts are appended, `r = rA ++ rB`, and the first
part is judged in front of the second, `v f = vA (rB ++ f) && vB f`. -/

/-- The piece `(r', v')` is the CRLF conversion of the piece `(r, v)`.  The conversion is a homomorphism for
    sequencing (`CrlfPiece.seq`).  A `seq` chain nested to the left has the text `((r₁ ++ r₂) ++ r₃) ++ …` and the
    judgement `((v₁ (r₂ ++ (r₃ ++ f)) && v₂ (r₃ ++ f)) && v₃ f) && …`, which is how `Item.render` and `Item.valid` are
    written: the statement for a constructor is, by unfolding, the chain of the statements for its parts. -/
structure CrlfPiece (r r' : Str) (v v' : Str → Bool) : Prop where
  render : r' = crlfText r
  valid : ∀ follow, '\r' ∉ r ++ follow → v follow = true → v' (crlfText follow) = true

section
variable {r r' rA rA' rB rB' k k' : Str} {v v' vA vA' vB vB' : Str → Bool} {b b' : Bool}

theorem CrlfPiece.text (hk : k' = crlfText k) (hb : b = true → b' = true) :
    CrlfPiece k k' (fun _ => b) (fun _ => b') :=
  ⟨hk, fun _ _ => hb⟩

theorem CrlfPiece.seq (hA : CrlfPiece rA rA' vA vA') (hB : CrlfPiece rB rB' vB vB') :
    CrlfPiece (rA ++ rB) (rA' ++ rB') (fun f => vA (rB ++ f) && vB f) (fun f => vA' (rB' ++ f) && vB' f) := by
  refine ⟨by rw [crlfText_append, hA.render, hB.render], fun f hcr hv => ?_⟩
  simp only [Bool.and_eq_true] at hv ⊢
  rw [List.append_assoc] at hcr
  rw [hB.render, ← crlfText_append]
  exact ⟨hA.valid _ hcr hv.1, hB.valid f (not_mem_of_append_right hcr) hv.2⟩

theorem CrlfPiece.post (hA : CrlfPiece r r' v v') (hk : k' = crlfText k) :
    CrlfPiece (r ++ k) (r' ++ k') (fun f => v (k ++ f)) (fun f => v' (k' ++ f)) := by
  refine ⟨by rw [crlfText_append, hA.render, hk], fun f hcr hv => ?_⟩
  rw [List.append_assoc] at hcr
  rw [hk, ← crlfText_append]
  exact hA.valid _ hcr hv

theorem CrlfPiece.postN (hA : CrlfPiece r r' v v') (hk : '\n' ∉ k) :
    CrlfPiece (r ++ k) (r' ++ k) (fun f => v (k ++ f)) (fun f => v' (k ++ f)) :=
  hA.post (crlfText_of_noNl hk).symm

theorem CrlfPiece.and (hA : CrlfPiece r r' v v') (hb : b = true → b' = true) :
    CrlfPiece r r' (fun f => v f && b) (fun f => v' f && b') := by
  refine ⟨hA.render, fun f hcr hv => ?_⟩
  simp only [Bool.and_eq_true] at hv ⊢
  exact ⟨hA.valid f hcr hv.1, hb hv.2⟩

/-- for the constructs whose text is bracketed differently from the chain (`SArg.group`, `Call`) -/
theorem CrlfPiece.cast {s s' : Str} (h : CrlfPiece r r' v v') (e : s = r) (e' : s' = r') : CrlfPiece s s' v v' :=
  e ▸ e' ▸ h

end

theorem SepAtom.crlfPiece (a : SepAtom) (h : a.lfPlain = true) :
    CrlfPiece a.render a.toCrlf.render (SepAtom.valid · a) (SepAtom.valid · a.toCrlf) := by
  cases a with
  | spaces n | tabs n => exact .text (crlfText_of_noNl (noNl_replicate (by decide))).symm id
  | nl crlf =>
    simp only [SepAtom.lfPlain, Bool.not_eq_true'] at h
    subst h
    exact .text rfl id
  | lineComment t eol =>
    simp only [SepAtom.lfPlain, Bool.and_eq_true] at h
    have ht : crlfText ('#' :: t) = '#' :: t := crlfText_of_noNl (by simp [noNl_of_noNlB h.1])
    cases eol with
    | some b =>
      cases b with
      | true => simp at h
      | false =>
        -- the comment takes its own line end: no condition on what follows
        exact (CrlfPiece.text (b := t.all notEol && !opensBracket t && true) ht.symm id).post (k := ['\n']) rfl
    | none =>
      refine ⟨?_, fun f hcr hv => ?_⟩
      · show '#' :: (t ++ []) = crlfText ('#' :: (t ++ []))
        rw [List.append_nil, ht]
      · simp only [SepAtom.toCrlf, SepAtom.valid, Bool.and_eq_true, Bool.or_eq_true, crlfText_isEmpty] at hv ⊢
        exact ⟨hv.1, hv.2.imp_right (startsWithEol_crlfText f (not_mem_of_append_right hcr))⟩
  | bracketComment lvl t =>
    have ht := noNl_of_noNlB (show noNlB t = true from h)
    have hc := noNl_bracketClose lvl
    refine ⟨(crlfText_of_noNl (l := '#' :: (bracketOpen lvl ++ t ++ bracketClose lvl))
      (by simp [ht, noNl_bracketOpen lvl, hc])).symm, fun f _ hv => ?_⟩
    simp only [SepAtom.toCrlf, SepAtom.valid, Bool.and_eq_true, Bool.or_eq_true, beq_iff_eq] at hv ⊢
    refine ⟨hv.1, hv.2.imp_right fun h' => ?_⟩
    rw [← crlfText_of_noNl ht, ← crlfText_of_noNl hc, ← crlfText_append, ← crlfText_append]
    exact findAfter_crlfText_none docEnd probeOk_docEnd _ h'

theorem sep_crlfPiece : (s : Sep) → sepLfPlain s = true →
    CrlfPiece (renderSep s) (renderSep (sepToCrlf s)) (sepValid · s) (sepValid · (sepToCrlf s))
  | [], _ => .text rfl id
  | a :: as, h => by
    simp only [sepLfPlain, Bool.and_eq_true] at h
    exact (a.crlfPiece h.1).seq (sep_crlfPiece as h.2)

theorem ArgTok.crlfPiece (t : ArgTok) (h : t.lfPlain = true) :
    CrlfPiece t.text t.text (ArgTok.valid · t) (ArgTok.valid · t) :=
  ⟨(crlfText_of_noNl (t.text_noNl h)).symm, fun f _ => t.valid_crlfText f⟩

mutual
theorem SArg.crlfPiece : (a : SArg) → a.lfPlain = true →
    CrlfPiece a.render a.toCrlf.render (SArg.valid · a) (SArg.valid · a.toCrlf)
  | .tok pre t, h => by
    simp only [SArg.lfPlain, Bool.and_eq_true] at h
    exact (sep_crlfPiece pre h.1).seq (t.crlfPiece h.2)
  | .group pre args close, h => by
    simp only [SArg.lfPlain, Bool.and_eq_true] at h
    exact (((((sep_crlfPiece pre h.1.1).postN (k := ['(']) (by decide)).seq (sargs_crlfPiece args h.1.2)).seq
      (sep_crlfPiece close h.2)).postN (k := [')']) (by decide)).cast (by simp [SArg.render])
      (by simp [SArg.render, SArg.toCrlf])
theorem sargs_crlfPiece : (as : List SArg) → sargsLfPlain as = true →
    CrlfPiece (renderSArgs as) (renderSArgs (sargsToCrlf as)) (sargsValid · as) (sargsValid · (sargsToCrlf as))
  | [], _ => .text rfl id
  | a :: as, h => by
    simp only [sargsLfPlain, Bool.and_eq_true] at h
    exact (SArg.crlfPiece a h.1).seq (sargs_crlfPiece as h.2)
end

theorem SArg.render_toCrlf : (a : SArg) → a.lfPlain = true → a.toCrlf.render = crlfText a.render :=
  fun a h => (a.crlfPiece h).render

theorem Call.crlfPiece (c : Call) (h : c.lfPlain = true) :
    CrlfPiece c.render c.toCrlf.render (Call.valid · c) (Call.valid · c.toCrlf) := by
  simp only [Call.lfPlain, Bool.and_eq_true] at h
  obtain ⟨⟨⟨h1, h2⟩, h3⟩, h4⟩ := h
  have hname : CrlfPiece [] [] (fun _ => isIdentText c.name) (fun _ => isIdentText c.name) := .text rfl id
  exact (((((((hname.seq (sep_crlfPiece c.pre h1)).postN (noNl_of_noNlB h2)).postN
    (noNl_replicate (n := c.sp) (c := ' ') (by decide))).postN (k := ['(']) (by decide)).seq
    (sargs_crlfPiece c.args h3)).seq (sep_crlfPiece c.close h4)).postN (k := [')']) (by decide)).cast
    (by simp [Call.render]) (by simp [Call.render, Call.toCrlf])

theorem DocC.crlfPiece (d : DocC) (isModule : Bool) (h : d.lfPlain = true) :
    CrlfPiece d.render d.toCrlf.render (DocC.valid isModule · d) (DocC.valid isModule · d.toCrlf) := by
  have hp := h
  simp only [DocC.lfPlain, Bool.and_eq_true] at hp
  obtain ⟨⟨⟨⟨hpre, hind⟩, -⟩, -⟩, -⟩ := hp
  -- the filler, the indentation and the token text, then the three further conjuncts of `DocC.valid`, in its order
  refine (((((sep_crlfPiece d.pre hpre).postN (noNl_of_noNlB hind)).post (d.tokenText_toCrlf h)).and id).and
    (fun hv => ?_)).and id
  -- `#]]` still occurs first at the end of the block
  rw [beq_iff_eq, docEnd_eq] at hv ⊢
  rw [d.inner_toCrlf h]
  exact findAfter_end_crlfText ['#', ']'] ']' (by decide) d.inner hv

/-- an optional doccomment, as `docOptValid` (`b = false`) and `Module.valid` (`b = true`) judge it -/
theorem docOpt_crlfPiece (b : Bool) : (doc : Option DocC) → docOptLfPlain doc = true →
    CrlfPiece (renderDocOpt doc) (renderDocOpt (doc.map DocC.toCrlf))
      (fun f => match doc with | some d => d.valid b f | none => true)
      (fun f => match doc.map DocC.toCrlf with | some d => d.valid b f | none => true)
  | none, _ => .text rfl id
  | some d, h => d.crlfPiece b h

mutual
theorem Item.crlfPiece : (i : Item) → i.lfPlain = true →
    CrlfPiece i.render i.toCrlf.render (Item.valid · i) (Item.valid · i.toCrlf)
  | .cmd doc call, h => by
    simp only [Item.lfPlain, Bool.and_eq_true] at h
    exact (docOpt_crlfPiece false doc h.1).seq (call.crlfPiece h.2)
  | .block doc o body c, h => by
    simp only [Item.lfPlain, Bool.and_eq_true] at h
    obtain ⟨⟨⟨hdoc, ho⟩, hbody⟩, hc⟩ := h
    exact (((docOpt_crlfPiece false doc hdoc).seq (o.crlfPiece ho)).seq (items_crlfPiece body hbody)).seq
      (c.crlfPiece hc)
  | .decl doc d i body c, h => by
    simp only [Item.lfPlain, Bool.and_eq_true] at h
    obtain ⟨⟨⟨⟨hdoc, hd⟩, hi⟩, hbody⟩, hc⟩ := h
    exact ((((docOpt_crlfPiece false doc hdoc).seq (d.crlfPiece hd)).seq (i.crlfPiece hi)).seq
      (items_crlfPiece body hbody)).seq (c.crlfPiece hc)
  | .dangling d, h => d.crlfPiece false h
theorem items_crlfPiece : (is : List Item) → itemsLfPlain is = true →
    CrlfPiece (renderSrcItems is) (renderSrcItems (itemsToCrlf is)) (itemsValid · is) (itemsValid · (itemsToCrlf is))
  | [], _ => .text rfl id
  | i :: is, h => by
    simp only [itemsLfPlain, Bool.and_eq_true] at h
    exact (Item.crlfPiece i h.1).seq (items_crlfPiece is h.2)
end

theorem Item.render_toCrlf : (i : Item) → i.lfPlain = true → i.toCrlf.render = crlfText i.render :=
  fun i h => (i.crlfPiece h).render

theorem Item.valid_toCrlf : (i : Item) → (follow : Str) → i.lfPlain = true → '\r' ∉ i.render ++ follow →
    i.valid follow = true → i.toCrlf.valid (crlfText follow) = true :=
  fun i follow hp hcr hv => (i.crlfPiece hp).valid follow hcr hv

theorem Item.toCrlf_isDangling (i : Item) : i.toCrlf.isDangling = i.isDangling := by
  cases i <;> rfl

theorem Item.toCrlf_startsWithDoc (i : Item) : i.toCrlf.startsWithDoc = i.startsWithDoc := by
  cases i <;> simp [Item.toCrlf, Item.startsWithDoc]

theorem nextStartsDoc_toCrlf (b : Bool) (is : List Item) : nextStartsDoc b (itemsToCrlf is) = nextStartsDoc b is := by
  cases is with
  | nil => rfl
  | cons j js => simp [itemsToCrlf, nextStartsDoc, Item.toCrlf_startsWithDoc]

mutual
theorem Item.toCrlf_danglingOk : (i : Item) → i.toCrlf.danglingOk = i.danglingOk
  | .cmd _ _ => by simp only [Item.toCrlf, Item.danglingOk]
  | .block _ _ body _ => by simp only [Item.toCrlf, Item.danglingOk, itemsToCrlf_danglingOk true body]
  | .decl _ _ _ body _ => by simp only [Item.toCrlf, Item.danglingOk, itemsToCrlf_danglingOk true body]
  | .dangling _ => by simp only [Item.toCrlf, Item.danglingOk]
theorem itemsToCrlf_danglingOk (b : Bool) : (is : List Item) → itemsDanglingOk b (itemsToCrlf is) = itemsDanglingOk b is
  | [] => by simp only [itemsToCrlf, itemsDanglingOk]
  | i :: is => by
    simp only [itemsToCrlf, itemsDanglingOk, Item.toCrlf_danglingOk i, Item.toCrlf_isDangling,
      nextStartsDoc_toCrlf, itemsToCrlf_danglingOk b is]
end

/-- the whole file as a piece in front of the empty text -/
theorem Module.crlfPiece (m : Module) (h : m.lfPlain = true) :
    ∃ v v', CrlfPiece m.render m.toCrlf.render v v' ∧ v [] = m.valid ∧ v' [] = m.toCrlf.valid := by
  simp only [Module.lfPlain, Bool.and_eq_true] at h
  have hb : '\n' ∉ (if m.bom = true then [Char.ofNat 0xFEFF] else []) := by split <;> decide
  refine ⟨_, _, (((CrlfPiece.text (crlfText_of_noNl hb).symm (itemsToCrlf_danglingOk false m.items).trans).seq
    (docOpt_crlfPiece true m.modDoc h.1.1)).seq (items_crlfPiece m.items h.1.2)).seq (sep_crlfPiece m.tail h.2), ?_, ?_⟩
  · simp only [List.append_nil]
    rfl
  · simp only [List.append_nil]
    rfl

/-- **`Module.toCrlf` converts the text**: the printed text of the converted module is the printed text of the module
    with every `'\n'` replaced by `"\r\n"` -/
theorem C04_crlf_render (m : Module) (h : m.lfPlain = true) : m.toCrlf.render = crlfText m.render :=
  let ⟨_, _, hm, _⟩ := m.crlfPiece h
  hm.render

theorem C04_crlf_valid (m : Module) (hlf : m.lfPlain = true) (hcr : '\r' ∉ m.render) (hv : m.valid = true) :
    m.toCrlf.valid = true := by
  obtain ⟨v, v', hm, e, e'⟩ := m.crlfPiece hlf
  rw [← e']
  exact hm.valid [] (by rwa [List.append_nil]) (e ▸ hv)

/-- **C04, CRLF half, in terms of the file text.**  `m`: a valid, well-formed LF module (outside K1) whose text
    contains no `'\r'` and whose doccomments are canonical.  The file with every `'\n'` replaced by `"\r\n"` is
    processed to a page as well, and the two pages are equal after deleting every `'\r'` and dropping the
    whitespace-only lines.  (Validity of the converted file is derived, `C04_crlf_valid`.) -/
theorem C04_crlf_page_text (cfg : Cfg) (hc : Str) (hs : List Str) (title modName : Str) (m : Module)
    (hlf : m.lfPlain = true) (hcr : '\r' ∉ m.render)
    (hv : m.valid = true) (hwf : itemsWf false m.items = true)
    (hk1 : cfg.inclCppClass = true ∨ itemsHaveDocumentedClass m.items = false)
    (hcan : m.docsCanonical) (htr : ProbeOk cfg.trigger) (hm : '\n' ∉ modName)
    (hone : ∀ e ∈ m.entries cfg, e.OneLine) :
    ∃ out out', pipeline cfg (hc :: hs) title modName m.render = .ok out ∧
      pipeline cfg (hc :: hs) title modName (crlfText m.render) = .ok out' ∧ normPage out' = normPage out := by
  rw [← C04_crlf_render m hlf]
  exact C04_crlf_page cfg hc hs title modName m hv (C04_crlf_valid m hlf hcr hv) hwf hk1 hcan htr hm hone

/-! ## non-vacuity

`exC`:
```
#[[[ @module mymod
# Module text
#]]
#[[[
# Doc of f
# :param x: it
#]]
function(f x)
  option(O "help")
endfunction()
#[[[
# A variable.
#]]
set(V 1)
```
-/

namespace C04Crlf

def modC : DocC :=
  { pre := [], ind := [], openSuffix := lit " @module mymod", lines := [lit "Module text"], leader := true, crlf := false }

def docF : DocC :=
  { pre := [.nl false], ind := [], openSuffix := [], lines := [lit "Doc of f", lit ":param x: it"], leader := true,
    crlf := false }

def docV : DocC :=
  { pre := [.nl false], ind := [], openSuffix := [], lines := [lit "A variable."], leader := true, crlf := false }

def exC : Module :=
  { bom := false, modDoc := some modC, tail := [.nl false],
    items := [
      .block (some docF)
        { pre := [.nl false], name := lit "function", sp := 0, close := [],
          args := [.tok [] (.bare (lit "f")), .tok [.spaces 1] (.bare (lit "x"))] }
        [ .cmd none
            { pre := [.nl false, .spaces 2], name := lit "option", sp := 0, close := [],
              args := [.tok [] (.bare (lit "O")), .tok [.spaces 1] (.quoted (lit "help"))] } ]
        { pre := [.nl false], name := lit "endfunction", sp := 0, args := [], close := [] },
      .cmd (some docV)
        { pre := [.nl false], name := lit "set", sp := 0, close := [],
          args := [.tok [] (.bare (lit "V")), .tok [.spaces 1] (.bare (lit "1"))] } ] }

theorem exC_valid : exC.valid = true := by
  unfold exC modC docF docV
  repeat rw [lit_ofList]
  decide +kernel

theorem exC_lfPlain : exC.lfPlain = true := by
  unfold exC modC docF docV
  repeat rw [lit_ofList]
  decide +kernel

theorem exC_noCr : '\r' ∉ exC.render := by
  unfold exC modC docF docV
  repeat rw [lit_ofList]
  decide +kernel

theorem exC_crlf_valid : exC.toCrlf.valid = true := C04_crlf_valid exC exC_lfPlain exC_noCr exC_valid

theorem docF_canonical : docF.Canonical := by decide +kernel

theorem docV_canonical : docV.Canonical := by decide +kernel

theorem modC_canonical : modC.ModCanonical := by
  refine ⟨rfl, rfl, by decide +kernel, ⟨[' '], lit " mymod", ?_, by decide +kernel, by decide +kernel⟩, by decide +kernel⟩
  rw [modC, lit_ofList, lit_ofList, lit_ofList]
  rfl

theorem exC_canonical : exC.docsCanonical := by
  refine ⟨?_, ?_⟩
  · intro d hd
    simp only [exC, Option.some.injEq] at hd
    subst hd
    exact modC_canonical
  · simp only [exC, itemsDocsCanonical, Item.docsCanonical, docOptCanonical, and_true]
    exact ⟨docF_canonical, docV_canonical⟩

theorem probeOk_default : ProbeOk ({} : Cfg).trigger := by decide +kernel

theorem exC_entries : exC.entries {} =
    [.module (lit "mymod") (lit "Module text\n"),
     .func false (lit "f") (lit "Doc of f\n:param x: it\n") [lit "x"] false,
     .opt (lit "O") [] (lit "\"help\"") none,
     .var (lit "V") (lit "A variable.\n") .string (some (lit "1"))] := by
  unfold exC modC docF docV
  repeat rw [lit_ofList]
  decide +kernel

theorem exC_crlf_entries : exC.toCrlf.entries {} =
    [.module (lit "mymod") (lit "Module text\r\n"),
     .func false (lit "f") (lit "\r\nDoc of f\r\n:param x: it\r\n") [lit "x"] false,
     .opt (lit "O") [] (lit "\"help\"") none,
     .var (lit "V") (lit "\r\nA variable.\r\n") .string (some (lit "1"))] := by
  unfold exC modC docF docV
  repeat rw [lit_ofList]
  decide +kernel

theorem exC_wf : itemsWf false exC.items = true := by decide +kernel

theorem exC_oneLine : ∀ e ∈ exC.entries {}, e.OneLine := by
  rw [exC_entries]
  repeat rw [lit_ofList]
  decide

example (hc title : Str) : ∃ out out', pipeline {} [hc] title (lit "mymod") exC.render = .ok out ∧
    pipeline {} [hc] title (lit "mymod") exC.toCrlf.render = .ok out' ∧ normPage out' = normPage out :=
  C04_crlf_page {} hc [] title (lit "mymod") exC exC_valid exC_crlf_valid exC_wf (Or.inl rfl) exC_canonical
    probeOk_default (not_mem_lit_of (by decide)) exC_oneLine

/-- the statement is not empty: the two source texts differ, and so do the two `documented` lists -/
example : exC.toCrlf.render ≠ exC.render := by decide +kernel

example : exC.toCrlf.entries {} ≠ exC.entries {} := by
  rw [exC_entries, exC_crlf_entries]
  decide +kernel

example : ListRel Entry.Crlf (exC.entries {}) (exC.toCrlf.entries {}) :=
  C04_crlf_entries {} probeOk_default exC exC_canonical

/-- `exC` is an LF file, so `exC.toCrlf` prints the converted text … -/
example : exC.toCrlf.render = crlfText exC.render := C04_crlf_render exC exC_lfPlain

/-- … and the text-level theorem applies: no validity hypothesis on the CRLF side -/
example (hc title : Str) : ∃ out out', pipeline {} [hc] title (lit "mymod") exC.render = .ok out ∧
    pipeline {} [hc] title (lit "mymod") (crlfText exC.render) = .ok out' ∧ normPage out' = normPage out :=
  C04_crlf_page_text {} hc [] title (lit "mymod") exC exC_lfPlain exC_noCr exC_valid exC_wf (Or.inl rfl)
    exC_canonical probeOk_default (not_mem_lit_of (by decide)) exC_oneLine

/-! ### the side condition on the trigger string is needed

A trigger string that ends in `'\r'` can be *created* by the conversion, one that contains `'\n'` can be *destroyed*: -/

example : isInfix (lit "it\r") (lit "x: it\n") = false ∧ isInfix (lit "it\r") (crlfDoc (lit "x: it\n")) = true := by
  repeat rw [lit_ofList]
  decide

example : isInfix (lit "a\nb") (lit "a\nb\n") = true ∧ isInfix (lit "a\nb") (crlfDoc (lit "a\nb\n")) = false := by
  repeat rw [lit_ofList]
  decide

/-- with `kwargs_doc_trigger_string = "it\r"` the CRLF file of `exC` gets `**kwargs` in the signature of `f`, the LF
    file does not: the pages differ in a line that is not whitespace-only -/
example : (exC.entries { trigger := lit "it\r" })[1]? = some (.func false (lit "f") (lit "Doc of f\n:param x: it\n") [lit "x"] false) ∧
    (exC.toCrlf.entries { trigger := lit "it\r" })[1]? =
      some (.func false (lit "f") (lit "\r\nDoc of f\r\n:param x: it\r\n") [lit "x"] true) := by
  unfold exC modC docF docV
  repeat rw [lit_ofList]
  decide +kernel

example : normPage (processDocs ['#'] ['t'] ['m'] (exC.toCrlf.entries { trigger := lit "it\r" })).render ≠
    normPage (processDocs ['#'] ['t'] ['m'] (exC.entries { trigger := lit "it\r" })).render := by
  decide +kernel

end C04Crlf

end Cminx

#print axioms Cminx.normPage_eq
#print axioms Cminx.crlfDoc_canonical
#print axioms Cminx.isInfix_crlfText
#print axioms Cminx.isInfix_crlfDoc
#print axioms Cminx.moduleName_cr
#print axioms Cminx.moduleNameDoc_crlf
#print axioms Cminx.itemsSpec_crlf
#print axioms Cminx.C04_crlf_entries
#print axioms Cminx.C04_crlf_guards
#print axioms Cminx.methodFields_docRel
#print axioms Cminx.Entry.Crlf.toElem
#print axioms Cminx.ElemsCrlf.normT_eq
#print axioms Cminx.C04_crlf_pages
#print axioms Cminx.C04_crlf_page
#print axioms Cminx.C04_crlf_render
#print axioms Cminx.C04_crlf_valid
#print axioms Cminx.C04_crlf_page_text
#print axioms Cminx.C04Crlf.exC_valid
#print axioms Cminx.C04Crlf.exC_crlf_valid
#print axioms Cminx.C04Crlf.exC_entries
#print axioms Cminx.C04Crlf.exC_crlf_entries
