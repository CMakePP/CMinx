import CminxModel.RstFull
import CminxLemmas.RstLemmas
/-!
# C20 on the whole writer API (`RstFull.lean`)

* `C20F_embed_*` — the model of `Rst.lean` is embedded in the full model: rendering and every API call commute with the
  embedding, so each theorem of `C20.lean` (stated for histories of the seven pipeline operations) holds verbatim for the
  full writer as long as a history uses those operations.
* `C20F_section_frame`, `C20F_section_retitle` — a nested writer's title is framed by its header string repeated to the
  title's length, also after the title was changed.
* `C20F_levels_history` — **in every document reachable from a fresh writer through any history of API calls, every section
  carries the header string configured for its section level**, the level being one more than the level of the writer it was
  opened on (a directive counts as level 0, as in the code).  `C20F_section_overflow`: a level the header list has no entry
  for raises, and (`C20F_error_skipped`) the document is left as it was.
* `C20F_section_ignores_depth` — recorded observation, outside the property's quantifier: a section renders the same at every
  ambient depth, i.e. the content of a section opened on a directive starts at column 0 again.
* `C20F_order` — elements are emitted in the order they were added, for all seven element classes.
* `C20F_table_*` — a rejected table leaves the document unchanged; every cell is padded to the common width, so all rows of a
  table have the same length.
-/
namespace Cminx

theorem ofElems_eq (es : List Elem) : ofElems es = es.map FElem.ofElem := by
  induction es with
  | nil => rfl
  | cons e es ih => simp [ofElems, ih]

theorem renderFElems_eq (d : Nat) (es : List FElem) : renderFElems d es = es.flatMap (·.render d ++ ['\n']) := by
  induction es with
  | nil => simp [renderFElems]
  | cons e es ih => simp [renderFElems, ih]

theorem fupdateAt_eq (nop : FNodeOp) (i : Nat) (p : List Nat) (es : List FElem) :
    fupdateAt nop i p es = es.modify i (FElem.update nop p) := by
  induction es generalizing i with
  | nil => simp [fupdateAt]
  | cons e es ih => cases i <;> simp [fupdateAt, ih]

theorem flevelAt_eq (i : Nat) (p : List Nat) (es : List FElem) : flevelAt i p es = es[i]?.bind (·.levelAt p) := by
  induction es generalizing i with
  | nil => simp [flevelAt]
  | cons e es ih => cases i <;> simp [flevelAt, ih]

theorem map_modify {α β : Type} {f : α → α} {f' : β → β} {g : α → β} (h : ∀ x, g (f x) = f' (g x)) (l : List α)
    (i : Nat) : (l.modify i f).map g = (l.map g).modify i f' := by
  induction l generalizing i with
  | nil => simp
  | cons a l ih => cases i <;> simp [h, ih]

theorem mem_modify {α : Type} {l : List α} {i : Nat} {x : α} (f : α → α) (h : l[i]? = some x) : f x ∈ l.modify i f :=
  List.mem_of_getElem? (i := i) (by simp [h])

theorem all_modify {α : Type} {q : α → Bool} {f : α → α} {l : List α} (i : Nat) (h : l.all q = true)
    (hf : ∀ x, l[i]? = some x → q x = true → q (f x) = true) : (l.modify i f).all q = true := by
  induction l generalizing i with
  | nil => simp
  | cons a l ih =>
    rw [List.all_cons, Bool.and_eq_true] at h
    cases i with
    | zero => simpa [h.2] using hf a rfl h.1
    | succ i => simpa [h.1] using ih i h.2 (fun x hx => hf x (by simpa using hx))

mutual
theorem C20F_embed_render (d : Nat) : ∀ e : Elem, (FElem.ofElem e).render d = e.render d
  | .para _ => rfl
  | .field _ _ => rfl
  | .list _ _ => rfl
  | .directive name args opts body => by
      have hemp : (ofElems body).isEmpty = body.isEmpty := by cases body <;> rfl
      simp [FElem.ofElem, FElem.render, Elem.render, C20F_embed_renderElems (d + 1) body, hemp]
theorem C20F_embed_renderElems (d : Nat) : ∀ es : List Elem, renderFElems d (ofElems es) = renderElems d es
  | [] => rfl
  | e :: es => by
      simp [ofElems, renderFElems, renderElems, C20F_embed_render d e, C20F_embed_renderElems d es]
end

theorem C20F_embed_doc (hs : List Str) (w : Doc) : (FDoc.ofDoc hs w).render = w.render := by
  simp [FDoc.ofDoc, FDoc.render, Doc.render, C20F_embed_renderElems]

def FNodeOp.ofNodeOp : NodeOp → FNodeOp
  | .append e => .append (FElem.ofElem e)
  | .addOpt n v => .addOpt n v
  | .setTitle t => .setTitle t
  | .clear => .clear

theorem C20F_embed_update (nop : NodeOp) : ∀ (p : List Nat) (e : Elem),
    FElem.ofElem (e.update nop p) = (FElem.ofElem e).update (FNodeOp.ofNodeOp nop) p := by
  intro p
  induction p with
  | nil =>
    intro e
    cases e with
    | directive name args opts body =>
      cases nop <;> simp [Elem.update, FElem.update, FElem.ofElem, FNodeOp.ofNodeOp, ofElems_eq]
    | _ => rfl
  | cons i p ih =>
    intro e
    cases e with
    | directive name args opts body =>
      simp only [Elem.update, FElem.update, FElem.ofElem, updateAt_eq, fupdateAt_eq, ofElems_eq, map_modify ih]
    | _ => rfl

theorem C20F_embed_updateAt (nop : NodeOp) (i : Nat) (p : List Nat) (es : List Elem) :
    ofElems (updateAt nop i p es) = fupdateAt (FNodeOp.ofNodeOp nop) i p (ofElems es) := by
  rw [updateAt_eq, fupdateAt_eq, ofElems_eq, ofElems_eq, map_modify (C20F_embed_update nop p)]

theorem C20F_embed_docUpdate (hs : List Str) (w : Doc) (nop : NodeOp) (p : List Nat) :
    FDoc.ofDoc hs (w.update nop p) = (FDoc.ofDoc hs w).update (FNodeOp.ofNodeOp nop) p := by
  cases p with
  | nil => cases nop <;> simp [Doc.update, FDoc.update, FDoc.ofDoc, FNodeOp.ofNodeOp, ofElems_eq]
  | cons i path => simp [Doc.update, FDoc.update, FDoc.ofDoc, C20F_embed_updateAt]

/-- every API call of the smaller model is the same call of the full writer, and never raises -/
theorem C20F_embed_apply (hs : List Str) (w : Doc) (op : Op) :
    (FDoc.ofDoc hs w).apply (FOp.ofOp op) = .ok (FDoc.ofDoc hs (w.apply op)) := by
  rw [Doc.apply, C20F_embed_docUpdate]
  cases op <;> rfl

theorem C20F_embed_run (hs : List Str) (ops : List Op) : ∀ w : Doc,
    (FDoc.ofDoc hs w).run (ops.map FOp.ofOp) = FDoc.ofDoc hs (w.run ops) := by
  induction ops with
  | nil => intro w; simp [FDoc.run, Doc.run]
  | cons op ops ih =>
    intro w
    simp only [List.map_cons, FDoc.run, C20F_embed_apply, Doc.run, List.foldl_cons]
    exact ih (w.apply op)

/-- what the full writer prints after a history of pipeline operations is what `Rst.lean` says -/
theorem C20F_embed_history (hs : List Str) (w : Doc) (ops : List Op) :
    ((FDoc.ofDoc hs w).run (ops.map FOp.ofOp)).render = (w.run ops).render := by
  rw [C20F_embed_run, C20F_embed_doc]

/-- a section is its title framed by its header string repeated once per code point of the title, then its content at
    depth 0 -/
theorem C20F_section_frame (d k : Nat) (hc title : Str) (body : List FElem) :
    (FElem.sect k hc title body).render d =
      '\n' :: (repeatStr hc title.length ++ '\n' :: (title ++ '\n' :: repeatStr hc title.length))
        ++ '\n' :: renderFElems 0 body :=
  rfl

/-- changing a section's title re-frames it: same header string, new length -/
theorem C20F_section_retitle (d k : Nat) (hc title t' : Str) (body : List FElem) :
    ((FElem.sect k hc title body).update (.setTitle t') []).render d =
      '\n' :: (repeatStr hc t'.length ++ '\n' :: (t' ++ '\n' :: repeatStr hc t'.length))
        ++ '\n' :: renderFElems 0 body :=
  rfl

/-- observation (outside the property's quantifier): the ambient depth does not reach into a section -/
theorem C20F_section_ignores_depth (d₁ d₂ k : Nat) (hc title : Str) (body : List FElem) :
    (FElem.sect k hc title body).render d₁ = (FElem.sect k hc title body).render d₂ :=
  rfl

mutual
/-- every section below `e` carries the header string of its level; `parent` is the level of the enclosing writer -/
def FElem.levelsOk (hs : List Str) (parent : Nat) : FElem → Bool
  | .sect k hc _ body => k == parent + 1 && hs[k]? == some hc && levelsOkList hs k body
  | .directive _ _ _ body => levelsOkList hs 0 body
  | _ => true
def levelsOkList (hs : List Str) (parent : Nat) : List FElem → Bool
  | [] => true
  | e :: es => e.levelsOk hs parent && levelsOkList hs parent es
end

def FDoc.levelsOk (w : FDoc) : Bool := w.hs[0]? == some w.hc && levelsOkList w.hs 0 w.body

theorem levelsOkList_eq (hs : List Str) (k : Nat) (es : List FElem) :
    levelsOkList hs k es = es.all (·.levelsOk hs k) := by
  induction es with
  | nil => rfl
  | cons e es ih => simp [levelsOkList, ih]

theorem levelsOkList_append (hs : List Str) (k : Nat) (a b : List FElem) :
    levelsOkList hs k (a ++ b) = (levelsOkList hs k a && levelsOkList hs k b) := by
  simp only [levelsOkList_eq, List.all_append]

/-- what an operation must satisfy at a writer of level `lvl` to keep the invariant -/
def FNodeOp.okAt (hs : List Str) (lvl : Nat) : FNodeOp → Bool
  | .append e => e.levelsOk hs lvl
  | _ => true

/-- what `nop` does to the body of the writer it is applied to — the same for the top-level writer, a directive and
    a section -/
def FNodeOp.onBody : FNodeOp → List FElem → List FElem
  | .append e, body => body ++ [e]
  | .clear, _ => []
  | _, body => body

theorem levelsOkList_onBody {hs : List Str} {lvl : Nat} {nop : FNodeOp} {body : List FElem}
    (hb : levelsOkList hs lvl body = true) (hn : nop.okAt hs lvl = true) :
    levelsOkList hs lvl (nop.onBody body) = true := by
  cases nop with
  | append e =>
    rw [FNodeOp.onBody, levelsOkList_append, hb]
    simpa [levelsOkList, FNodeOp.okAt] using hn
  | clear => rfl
  | _ => exact hb

/-- The step along a path, stated for bodies, which is what the three kinds of writer (document, directive, section) share:
    only the element the path goes through changes, and below it the statement recurs on the rest of the path. -/
theorem fupdateAt_levelsOk (hs : List Str) (nop : FNodeOp) (p : List Nat) (i k : Nat) (body : List FElem)
    (h : levelsOkList hs k body = true) (hn : ∀ lvl, flevelAt i p body = some lvl → nop.okAt hs lvl = true) :
    levelsOkList hs k (fupdateAt nop i p body) = true := by
  rw [fupdateAt_eq, levelsOkList_eq] at *
  refine all_modify i h fun x hx hq => ?_
  replace hn : ∀ lvl, x.levelAt p = some lvl → nop.okAt hs lvl = true :=
    fun lvl hl => hn lvl (by simp [flevelAt_eq, hx, hl])
  cases p with
  | nil =>
    cases x with
    | directive name args opts b =>
      have : (FElem.update nop [] (.directive name args opts b)).levelsOk hs k =
          levelsOkList hs 0 (nop.onBody b) := by cases nop <;> rfl
      exact this ▸ levelsOkList_onBody hq (hn 0 rfl)
    | sect k' hc title b =>
      have : (FElem.update nop [] (.sect k' hc title b)).levelsOk hs k =
          (k' == k + 1 && hs[k']? == some hc && levelsOkList hs k' (nop.onBody b)) := by cases nop <;> rfl
      rw [FElem.levelsOk, Bool.and_eq_true] at hq
      rw [this, hq.1, levelsOkList_onBody hq.2 (hn k' rfl)]
      rfl
    | _ => exact hq
  | cons j p =>
    cases x with
    | directive name args opts b => exact fupdateAt_levelsOk hs nop p j 0 b hq hn
    | sect k' hc title b =>
      rw [FElem.levelsOk, Bool.and_eq_true] at hq
      rw [FElem.update, FElem.levelsOk, hq.1, fupdateAt_levelsOk hs nop p j k' b hq.2 hn]
      rfl
    | _ => exact hq

theorem docUpdate_levelsOk (w : FDoc) (nop : FNodeOp) (p : List Nat) (h : w.levelsOk = true)
    (hn : ∀ lvl, w.levelAt p = some lvl → nop.okAt w.hs lvl = true) : (w.update nop p).levelsOk = true := by
  rw [FDoc.levelsOk, Bool.and_eq_true] at h
  cases p with
  | nil =>
    have : (w.update nop []).levelsOk = (w.hs[0]? == some w.hc && levelsOkList w.hs 0 (nop.onBody w.body)) := by
      cases nop <;> rfl
    rw [this, h.1, levelsOkList_onBody h.2 (hn 0 rfl)]
    rfl
  | cons i path =>
    rw [FDoc.update, FDoc.levelsOk, h.1, fupdateAt_levelsOk w.hs nop path i 0 w.body h.2 hn]
    rfl

theorem update_hs (w : FDoc) (nop : FNodeOp) (p : List Nat) : (w.update nop p).hs = w.hs := by
  cases p with
  | nil => cases nop <;> simp [FDoc.update]
  | cons i path => simp [FDoc.update]

theorem FDoc.apply_ok {w w' : FDoc} {op : FOp} (h : w.apply op = .ok w') :
    ∃ nop, w' = w.update nop op.handle ∧ ∀ lvl, w.levelAt op.handle = some lvl → nop.okAt w.hs lvl = true := by
  cases op with
  | sect hd title =>
    simp only [FDoc.apply] at h
    split at h
    · cases h
    · rename_i k hk
      split at h
      · cases h
      · rename_i hc hhc
        refine ⟨_, (Except.ok.inj h).symm, fun lvl hl => ?_⟩
        cases hk.symm.trans hl
        simp [FNodeOp.okAt, FElem.levelsOk, levelsOkList, hhc]
  | table hd rows heads =>
    simp only [FDoc.apply] at h
    split at h
    · exact ⟨_, (Except.ok.inj h).symm, fun _ _ => rfl⟩
    · cases h
  | _ => exact ⟨_, (Except.ok.inj h).symm, fun _ _ => rfl⟩

/-- one API call keeps the invariant (and a call that raises changes nothing, by the definition of `run`) -/
theorem C20F_levels_step (w w' : FDoc) (op : FOp) (h : w.levelsOk = true) (ha : w.apply op = .ok w') :
    w'.levelsOk = true := by
  obtain ⟨nop, rfl, hn⟩ := FDoc.apply_ok ha
  exact docUpdate_levelsOk w nop op.handle h hn

theorem C20F_levels_run (ops : List FOp) : ∀ w : FDoc, w.levelsOk = true → (w.run ops).levelsOk = true := by
  induction ops with
  | nil => intro w h; simpa [FDoc.run] using h
  | cons op ops ih =>
    intro w h
    simp only [FDoc.run]
    split
    · rename_i w' ha; exact ih w' (C20F_levels_step w w' op h ha)
    · exact ih w h

/-- **every reachable document**: a fresh writer, any history of calls (raising ones included) — each section's header string
    is the one configured for its level, and the top-level frame uses the first -/
theorem C20F_levels_history (hs : List Str) (title : Str) (w : FDoc) (ops : List FOp) (hw : FDoc.new hs title = some w) :
    (w.run ops).levelsOk = true := by
  apply C20F_levels_run
  cases hs with
  | nil => simp [FDoc.new] at hw
  | cons h t =>
    simp only [FDoc.new, Option.some.injEq] at hw
    subst hw
    simp [FDoc.levelsOk, levelsOkList]

/-- what `levelsOk` gives for a section met anywhere in a list: its frame is `hs[level]` -/
theorem C20F_levels_frame (hs : List Str) (parent k : Nat) (hc title : Str) (body : List FElem) (d : Nat)
    (h : (FElem.sect k hc title body).levelsOk hs parent = true) :
    k = parent + 1 ∧ hs[k]? = some hc ∧
    (FElem.sect k hc title body).render d =
      '\n' :: (repeatStr hc title.length ++ '\n' :: (title ++ '\n' :: repeatStr hc title.length))
        ++ '\n' :: renderFElems 0 body := by
  simp only [FElem.levelsOk, Bool.and_eq_true, beq_iff_eq] at h
  exact ⟨h.1.1, h.1.2, C20F_section_frame d k hc title body⟩

/-- a section one level below a writer of level `k` is created with `hs[k+1]` -/
theorem C20F_section_created (w : FDoc) (h : List Nat) (title : Str) (k : Nat) (hc : Str)
    (hk : w.levelAt h = some k) (hhc : w.hs[k + 1]? = some hc) :
    w.apply (.sect h title) = .ok (w.update (.append (.sect (k + 1) hc title [])) h) := by
  simp [FDoc.apply, hk, hhc]

/-- deeper than the header list: the call raises … -/
theorem C20F_section_overflow (w : FDoc) (h : List Nat) (title : Str) (k : Nat)
    (hk : w.levelAt h = some k) (hlen : w.hs.length ≤ k + 1) :
    w.apply (.sect h title) = .error "level" := by
  have : w.hs[k + 1]? = none := by simp [hlen]
  simp [FDoc.apply, hk, this]

/-- … and a call that raises leaves the document as it was -/
theorem C20F_error_skipped (w : FDoc) (op : FOp) (ops : List FOp) (e : String) (h : w.apply op = .error e) :
    w.run (op :: ops) = w.run ops := by
  simp [FDoc.run, h]

/-- with the packaged ten header characters the tenth nested section is the first to raise -/
example : let hs := ["#", "*", "=", "-", "_", "~", "!", "&", "@", "^"].map String.toList
    hs[9]?.isSome = true ∧ hs[10]? = none := by decide

theorem C20F_order (d : Nat) (a b : List FElem) : renderFElems d (a ++ b) = renderFElems d a ++ renderFElems d b := by
  simp only [renderFElems_eq, List.flatMap_append]

/-- a call at the root appends at the end of the text: everything printed before is a prefix of what is printed after -/
theorem C20F_order_root (w : FDoc) (e : FElem) :
    (w.update (.append e) []).render = w.render ++ (e.render 0 ++ ['\n']) := by
  simp [FDoc.update, FDoc.render, C20F_order, renderFElems]

theorem C20F_doctest_text (d : Nat) (l e : Str) :
    (FElem.doctest l e).render d = '\n' :: (indent d ++ lit ">>> " ++ l ++ '\n' :: (e ++ ['\n'])) :=
  rfl

theorem C20F_table_rejected (w : FDoc) (h : List Nat) (rows : List (List Str)) (heads : List Str)
    (hv : tableValid rows heads = false) : w.apply (.table h rows heads) = .error "table" := by
  simp [FDoc.apply, hv]

theorem C20F_table_empty_rejected (heads : List Str) : tableValid [] heads = false := rfl

theorem le_foldl {α : Type} {g : Nat → α → Nat} (hg : ∀ w a, w ≤ g w a) (l : List α) (w : Nat) : w ≤ l.foldl g w := by
  induction l generalizing w with
  | nil => exact Nat.le_refl w
  | cons x xs ih => exact Nat.le_trans (hg w x) (ih _)

theorem le_foldl_of_mem {α : Type} {g : Nat → α → Nat} (hg : ∀ w a, w ≤ g w a) {a : α} {b : Nat}
    (hb : ∀ w, b ≤ g w a) {l : List α} (ha : a ∈ l) (w : Nat) : b ≤ l.foldl g w := by
  induction l generalizing w with
  | nil => cases ha
  | cons x xs ih =>
    rcases List.mem_cons.1 ha with rfl | h
    · exact Nat.le_trans (hb w) (le_foldl hg xs _)
    · exact ih h _

theorem le_maxStep (f : Str → Nat) (w : Nat) (c : Str) : w ≤ (if f c > w then f c else w) := by
  split
  · exact Nat.le_of_lt ‹_›
  · exact Nat.le_refl w

theorem apply_le_maxStep (f : Str → Nat) (w : Nat) (c : Str) : f c ≤ (if f c > w then f c else w) := by
  split
  · exact Nat.le_refl _
  · exact Nat.le_of_not_gt ‹_›

/-- no cell and no heading is longer than the column width -/
theorem C20F_table_cell_fits (rows : List (List Str)) (heads : List Str) (r : List Str) (c : Str)
    (hr : r ∈ rows) (hc : c ∈ r) : c.length ≤ tableWidth rows heads :=
  Nat.le_trans
    (le_foldl_of_mem (fun w row => le_foldl (le_maxStep _) row w)
      (fun w => le_foldl_of_mem (le_maxStep _) (apply_le_maxStep List.length · c) hc w) hr 0)
    (le_foldl (le_maxStep _) heads _)

theorem C20F_table_head_fits (rows : List (List Str)) (heads : List Str) (h : Str) (hh : h ∈ heads) :
    h.length ≤ tableWidth rows heads :=
  le_foldl_of_mem (le_maxStep _) (apply_le_maxStep List.length · h) hh _

theorem padCell_length (w : Nat) (c : Str) (h : c.length ≤ w) : (padCell w c).length = w + 2 := by
  simp [padCell]; omega

theorem concatMap_padCell_length (w : Nat) (r : List Str) (h : ∀ c ∈ r, c.length ≤ w) :
    (concatMap (padCell w) r).length = r.length * (w + 2) := by
  induction r with
  | nil => simp [concatMap]
  | cons c cs ih =>
    have hc := padCell_length w c (h c (by simp))
    have := ih (fun x hx => h x (by simp [hx]))
    simp only [concatMap, List.length_append, hc, this, List.length_cons]
    rw [Nat.add_mul]; omega

/-- alignment: every row of a table is printed `columns × (width + 2)` characters long -/
theorem C20F_table_row_length (rows : List (List Str)) (heads : List Str) (r : List Str) (hr : r ∈ rows) :
    (concatMap (padCell (tableWidth rows heads)) r).length = r.length * (tableWidth rows heads + 2) :=
  concatMap_padCell_length _ r (fun c hc => C20F_table_cell_fits rows heads r c hr hc)

theorem C20F_write_none : writeTarget none = .valueError := rfl
theorem C20F_write_empty : writeTarget (some (.path [])) = .valueError := rfl
theorem C20F_write_path (c : Char) (p : Str) : writeTarget (some (.path (c :: p))) = .openPath (stripWs (c :: p)) := rfl
theorem C20F_write_other : writeTarget (some .other) = .typeError := rfl

/-! ## non-vacuity: a concrete history with nested sections, a directive, a rejected table and an overflowing section -/

def c20fDemo : Option FDoc :=
  (FDoc.new [['='], ['-']] (lit "T")).map fun w =>
    w.run [.sect [] (lit "A"), .text [0] (lit "p"), .sect [0] (lit "too deep"), .directive [0] (lit "note") [],
           .sect [0, 1] (lit "in dir"), .table [] [] [], .doctest [] (lit "1") (lit "1")]

example : (c20fDemo.map (·.levelsOk)) = some true := by decide +kernel
example : (c20fDemo.map (fun w => String.ofList w.render)) =
    some "\n=\nT\n=\n\n-\nA\n-\np\n\n.. note:: \n\n\n------\nin dir\n------\n\n\n\n\n>>> 1\n1\n\n" := by
  have h : ∀ l, c20fDemo.map (·.render) = some l →
      c20fDemo.map (fun w => String.ofList w.render) = some (String.ofList l) :=
    fun l h => (Option.map_map ..).symm.trans (congrArg (Option.map String.ofList) h)
  exact h _ (by decide +kernel)

end Cminx
