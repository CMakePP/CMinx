import CminxModel.Str
/-!
# C15 before repair D6 — pruning a list while iterating over it

Before the repair, `document` pruned the lists `os.walk` hands out like this:

```python
for subdir in subdirs:            # the same list …
    if spec.match_file(...):
        subdirs.remove(subdir)    # … is shrunk inside the loop
```

CPython's list iterator keeps an *index* into the list.  Removing the current element shifts the rest one place
to the left, the index still advances, so the entry that follows a removed one is never tested.  `pruneOld`
models that loop; `List.filter` is what the repaired code (`for subdir in copy.copy(subdirs)`) computes, and it is
what `walkDir` of the model uses.  The order theorem `C15_order` and the characterisation
`C15_count_independent` are false for `pruneOld` (`C15_old_*` below) — this file documents defect D6 and is not
part of the verified model.
-/
namespace Cminx

/-- the loop `for x in l: if p(x): l.remove(x)`, the iterator being an index into the list that is shrunk;
    `fuel` bounds the number of iterations (at most the original length) -/
def pruneOldAux {α : Type} [DecidableEq α] (p : α → Bool) : Nat → Nat → List α → List α
  | 0, _, l => l
  | fuel + 1, i, l =>
    match l[i]? with
    | none => l
    | some x => if p x then pruneOldAux p fuel (i + 1) (l.erase x) else pruneOldAux p fuel (i + 1) l

def pruneOld {α : Type} [DecidableEq α] (p : α → Bool) (l : List α) : List α := pruneOldAux p l.length 0 l

/-- the pattern `a*` -/
def startsWithA (s : Str) : Bool := s.head? == some 'a'

/-- three adjacent entries that all match: the middle one survives the old loop -/
theorem C15_old_skips :
    pruneOld startsWithA [lit "aa", lit "ab", lit "ac"] = [lit "ab"] := by decide

/-- … although it matches the pattern, so "survivor ⇔ matches no pattern" fails for the old loop -/
theorem C15_old_not_iff :
    ¬ (∀ n, n ∈ pruneOld startsWithA [lit "aa", lit "ab", lit "ac"] ↔
        n ∈ [lit "aa", lit "ab", lit "ac"] ∧ startsWithA n = false) := by
  intro h
  have := (h (lit "ab")).mp (by decide)
  revert this; decide

/-- how many entries survive depends on how many match *and* on where they stand -/
theorem C15_old_count_dependent :
    pruneOld startsWithA [lit "aa", lit "x", lit "ab"] = [lit "x"] ∧
    pruneOld startsWithA [lit "aa", lit "ab", lit "x"] = [lit "ab", lit "x"] := by decide

/-- the result of the old loop on two listings of the same directory are not permutations of each other:
    the analogue of `C15_order` is false -/
theorem C15_old_order_dependent :
    ∃ l₁ l₂ : List Str, l₁.Perm l₂ ∧ ¬ (pruneOld startsWithA l₁).Perm (pruneOld startsWithA l₂) := by
  refine ⟨[lit "aa", lit "x", lit "ab"], [lit "aa", lit "ab", lit "x"], ?_, ?_⟩
  · exact .cons _ (.swap _ _ _)
  · rw [C15_old_count_dependent.1, C15_old_count_dependent.2]
    intro h
    have := h.length_eq
    revert this; decide

/-- the contrast: `List.filter` tests every entry, wherever it stands and whatever stands next to it … -/
theorem C15_filter_iff {α : Type} (p : α → Bool) (l : List α) (x : α) :
    x ∈ l.filter (fun y => !p y) ↔ x ∈ l ∧ p x = false := by
  simp

/-- … and commutes with permutations of the listing -/
theorem C15_filter_perm {α : Type} (p : α → Bool) {l₁ l₂ : List α} (h : l₁.Perm l₂) :
    (l₁.filter (fun y => !p y)).Perm (l₂.filter (fun y => !p y)) :=
  h.filter _

/-- on the example that defeats the old loop -/
example : [lit "aa", lit "ab", lit "ac"].filter (fun y => !startsWithA y) = [] := by decide

end Cminx
