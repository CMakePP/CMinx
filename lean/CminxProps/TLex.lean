import CminxModel.Pipeline
import CminxModel.Source
import CminxLemmas.ParseLemmas
import CminxLemmas.RoundTripLex
/-!
# T-parse / T-lex — the printer of decorated modules round-trips through the scanner and the parser

Spec side: `Module.sigToks` (the significant token sequence of a decorated module, layout erased), the
well-formedness predicate for dangling doccomments (`Module.danglingOk`) and the validity predicate of a
decorated module (`Module.valid`).  All predicates are `Bool` functions, so the harness can evaluate them.
The vocabulary of `Module.valid` is defined with the lemmas about it: the character classes `isBlank`, `isEolCh`, what may
follow a token (`stopHead`, `startsWithEol`) and `closesAtEnd` in `CminxLemmas/LexLemmas.lean`, `isIdentText` in
`CminxLemmas/RoundTripTok.lean`.
-/
namespace Cminx

/-- the text is a complete `Quoted_argument`: `"`, then a body whose first unescaped `"` is its last character -/
def isQuotedText : Str → Bool
  | '"' :: r => quotedBody r == some r.length
  | _ => false

/-- The kind the scanner gives an argument token.  A bare word that has the shape of an identifier is an
    `Identifier`, any other bare word an `Unquoted_argument` (the generator also writes the parameter name `"q"`
    as a "bare" token; such a text is a `Quoted_argument`).  A bracket argument whose whole text (delimiters
    included) consists of unquoted-argument characters — e.g. `[[ab]]` — matches `Unquoted_argument` with the same
    length, and that rule is listed first; otherwise it is a `Bracket_argument`.  (The parser treats the four
    kinds alike.) -/
def ArgTok.kind : ArgTok → TokKind
  | .bare s => if isIdentText s then .identifier else if isQuotedText s then .quoted else .unquoted
  | .quoted _ => .quoted
  | .bracket lvl s =>
    if unqLen (ArgTok.bracket lvl s).text = (ArgTok.bracket lvl s).text.length then .unquoted else .bracketArg

def ArgTok.tok (t : ArgTok) : Tok := ⟨t.kind, t.text⟩

def lparenTok : Tok := ⟨.lparen, ['(']⟩
def rparenTok : Tok := ⟨.rparen, [')']⟩

mutual
def SArg.sigToks : SArg → List Tok
  | .tok _ t => [t.tok]
  | .group _ args _ => lparenTok :: (sargsSigToks args ++ [rparenTok])
def sargsSigToks : List SArg → List Tok
  | [] => []
  | a :: as => a.sigToks ++ sargsSigToks as
end

def Call.sigToks (c : Call) : List Tok :=
  ⟨.identifier, c.name⟩ :: lparenTok :: (sargsSigToks c.args ++ [rparenTok])

def DocC.tok (d : DocC) : Tok := ⟨.docstring, d.tokenText⟩

def docOptToks : Option DocC → List Tok
  | some d => [d.tok]
  | none => []

mutual
def Item.sigToks : Item → List Tok
  | .cmd doc call => docOptToks doc ++ call.sigToks
  | .block doc o body c => docOptToks doc ++ o.sigToks ++ itemsSigToks body ++ c.sigToks
  | .decl doc d i body c => docOptToks doc ++ d.sigToks ++ i.sigToks ++ itemsSigToks body ++ c.sigToks
  | .dangling d => [d.tok]
def itemsSigToks : List Item → List Tok
  | [] => []
  | i :: is => i.sigToks ++ itemsSigToks is
end

def Module.sigToks (m : Module) : List Tok :=
  (match m.modDoc with | some d => [⟨.moduleDocstring, d.tokenText⟩] | none => []) ++ itemsSigToks m.items

mutual
def Item.namesOk : Item → Bool
  | .cmd _ c => isIdentText c.name
  | .block _ o body c => isIdentText o.name && itemsNamesOk body && isIdentText c.name
  | .decl _ d i body c => isIdentText d.name && isIdentText i.name && itemsNamesOk body && isIdentText c.name
  | .dangling _ => true
def itemsNamesOk : List Item → Bool
  | [] => true
  | i :: is => i.namesOk && itemsNamesOk is
end

/-- every command name is an identifier text.  (Part of `Module.valid`, see `valid_namesOk`; the parser model does
    not look at token texts, so `T_parse` does not need it.) -/
def Module.namesOk (m : Module) : Bool := itemsNamesOk m.items

def Item.isDangling : Item → Bool
  | .dangling _ => true
  | _ => false

/-- the first significant token of the item is a doccomment -/
def Item.startsWithDoc : Item → Bool
  | .cmd doc _ => doc.isSome
  | .block doc _ _ _ => doc.isSome
  | .decl doc _ _ _ _ => doc.isSome
  | .dangling _ => true

/-- what comes after a dangling doccomment is another doccomment, or — at top level only — the end of the file
    (inside a body the closing command follows) -/
def nextStartsDoc (inBody : Bool) : List Item → Bool
  | [] => !inBody
  | j :: _ => j.startsWithDoc

mutual
def Item.danglingOk : Item → Bool
  | .cmd _ _ => true
  | .block _ _ body _ => itemsDanglingOk true body
  | .decl _ _ _ body _ => itemsDanglingOk true body
  | .dangling _ => true
/-- every `Item.dangling` really is dangling for the parser: it is followed by an element that starts with a
    doccomment, or it is the last element of the top-level list -/
def itemsDanglingOk (inBody : Bool) : List Item → Bool
  | [] => true
  | i :: is => i.danglingOk && (!i.isDangling || nextStartsDoc inBody is) && itemsDanglingOk inBody is
end

def Module.danglingOk (m : Module) : Bool := itemsDanglingOk false m.items

/-! ## validity of a decorated module

Every predicate takes the text `follow` that the printer emits after the construct: the only context a token
needs is whether the next character could extend it.  (`stopHead follow`: `follow` is empty or starts with one of
``␠ \t \r \n ( ) # "``, see `CminxLemmas/LexLemmas.lean`.) -/

/-- * blanks, tabs, newlines: no condition (adjacent ones merge into one token, which changes nothing);
    * line comment: its text has no CR/LF and does not open a bracket (`#[[`, `#[=[` … would start a bracket
      comment); without a line ending of its own it must end the file or stand in front of a line ending
      (LF or CRLF), which it then takes;
    * bracket comment: its terminator first occurs at its end, and at level 0 its text does not start with `[`
      — `#[[[` is CMinx's doccomment opener, known finding K3 — unless no `#]]` occurs anywhere after it in the
      file (then the `Docstring` rule cannot match and the comment is a comment) -/
def SepAtom.valid (follow : Str) : SepAtom → Bool
  | .spaces _ => true
  | .tabs _ => true
  | .nl _ => true
  | .lineComment t eol => t.all notEol && !opensBracket t && (eol.isSome || follow.isEmpty || startsWithEol follow)
  | .bracketComment lvl t =>
    closesAtEnd lvl t &&
      (!(lvl == 0 && t.head? == some '[') || findAfter docEnd (t ++ (bracketClose lvl ++ follow)) == none)

def sepValid (follow : Str) : Sep → Bool
  | [] => true
  | a :: as => a.valid (renderSep as ++ follow) && sepValid follow as

/-- * bare word: non-empty, consists of unquoted-argument characters and valid escapes only, does not open a
      bracket (`[[x` would be an unterminated bracket argument), and what follows does not extend it
      (or the "bare" text is a complete quoted argument);
    * quoted: the first unescaped `"` of `s"` is the closing one and every backslash starts a valid escape;
    * bracket: its terminator first occurs at its end; if the whole token also reads as an unquoted argument
      (e.g. `[[ab]]`) what follows must not extend it -/
def ArgTok.valid (follow : Str) : ArgTok → Bool
  | .bare s => isQuotedText s || (!s.isEmpty && unqLen s == s.length && !opensBracket s && stopHead follow)
  | .quoted s => quotedBody (s ++ ['"']) == some (s.length + 1)
  | .bracket lvl s =>
    closesAtEnd lvl s &&
      (unqLen (ArgTok.bracket lvl s).text != (ArgTok.bracket lvl s).text.length || stopHead follow)

mutual
def SArg.valid (follow : Str) : SArg → Bool
  | .tok pre t => sepValid (t.text ++ follow) pre && t.valid follow
  | .group pre args close =>
    sepValid ('(' :: (renderSArgs args ++ (renderSep close ++ ')' :: follow))) pre &&
      sargsValid (renderSep close ++ ')' :: follow) args && sepValid (')' :: follow) close
def sargsValid (follow : Str) : List SArg → Bool
  | [] => true
  | a :: as => a.valid (renderSArgs as ++ follow) && sargsValid follow as
end

/-- the command name is an identifier; separators and arguments are valid in their context -/
def Call.valid (follow : Str) (c : Call) : Bool :=
  isIdentText c.name &&
    sepValid (c.name ++ (List.replicate c.sp ' ' ++ '(' :: (renderSArgs c.args ++ (renderSep c.close ++ ')' :: follow))))
      c.pre &&
    sargsValid (renderSep c.close ++ ')' :: follow) c.args && sepValid (')' :: follow) c.close

/-- the text of a doccomment between `#[[[` and the closing `#]]` -/
def DocC.inner (d : DocC) : Str :=
  d.openSuffix ++ (eolStr d.crlf ++ ((d.lines.map (fun t => d.bodyLine t ++ eolStr d.crlf)).flatten ++ d.ind))

/-- * the indentation consists of blanks and tabs;
    * `#]]` occurs in the block only as its last three characters;
    * the module doccomment has blanks, `@module` and the rest of the line after `#[[[`; an ordinary doccomment
      has anything but that on its opening line (usually nothing) -/
def DocC.valid (isModule : Bool) (follow : Str) (d : DocC) : Bool :=
  sepValid (d.ind ++ (d.tokenText ++ follow)) d.pre && d.ind.all isBlank &&
    findAfter docEnd (d.inner ++ docEnd) == some (d.inner.length + 3) &&
    (isModule == (lit "@module").isPrefixOf (d.openSuffix.dropWhile isBlank))

def docOptValid (follow : Str) : Option DocC → Bool
  | some d => d.valid false follow
  | none => true

mutual
def Item.valid (follow : Str) : Item → Bool
  | .cmd doc call => docOptValid (call.render ++ follow) doc && call.valid follow
  | .block doc o body c =>
    docOptValid (o.render ++ (renderSrcItems body ++ (c.render ++ follow))) doc &&
      o.valid (renderSrcItems body ++ (c.render ++ follow)) && itemsValid (c.render ++ follow) body && c.valid follow
  | .decl doc d i body c =>
    docOptValid (d.render ++ (i.render ++ (renderSrcItems body ++ (c.render ++ follow)))) doc &&
      d.valid (i.render ++ (renderSrcItems body ++ (c.render ++ follow))) &&
      i.valid (renderSrcItems body ++ (c.render ++ follow)) && itemsValid (c.render ++ follow) body && c.valid follow
  | .dangling d => d.valid false follow
def itemsValid (follow : Str) : List Item → Bool
  | [] => true
  | i :: is => i.valid (renderSrcItems is ++ follow) && itemsValid follow is
end

/-- **validity of a decorated module**: dangling doccomments are dangling, and every token and filler atom is
    valid in its context -/
def Module.valid (m : Module) : Bool :=
  m.danglingOk &&
    (match m.modDoc with
     | some d => d.valid true (renderSrcItems m.items ++ renderSep m.tail)
     | none => true) &&
    itemsValid (renderSep m.tail) m.items && sepValid [] m.tail

theorem sepValid_cons {follow : Str} {a : SepAtom} {as : Sep} :
    sepValid follow (a :: as) = true ↔ a.valid (renderSep as ++ follow) = true ∧ sepValid follow as = true := by
  simp only [sepValid, Bool.and_eq_true]

theorem SArg.valid_tok {follow : Str} {pre : Sep} {t : ArgTok} :
    (SArg.tok pre t).valid follow = true ↔ sepValid (t.text ++ follow) pre = true ∧ t.valid follow = true := by
  simp only [SArg.valid, Bool.and_eq_true]

theorem SArg.valid_group {follow : Str} {pre : Sep} {args : List SArg} {close : Sep} :
    (SArg.group pre args close).valid follow = true ↔
      sepValid ('(' :: (renderSArgs args ++ (renderSep close ++ ')' :: follow))) pre = true ∧
      sargsValid (renderSep close ++ ')' :: follow) args = true ∧ sepValid (')' :: follow) close = true := by
  simp only [SArg.valid, Bool.and_eq_true, and_assoc]

theorem sargsValid_cons {follow : Str} {a : SArg} {as : List SArg} :
    sargsValid follow (a :: as) = true ↔ a.valid (renderSArgs as ++ follow) = true ∧ sargsValid follow as = true := by
  simp only [sargsValid, Bool.and_eq_true]

theorem Call.valid_iff {follow : Str} {c : Call} :
    c.valid follow = true ↔ isIdentText c.name = true ∧
      sepValid (c.name ++ (List.replicate c.sp ' ' ++ '(' :: (renderSArgs c.args ++ (renderSep c.close ++ ')' :: follow))))
        c.pre = true ∧
      sargsValid (renderSep c.close ++ ')' :: follow) c.args = true ∧ sepValid (')' :: follow) c.close = true := by
  simp only [Call.valid, Bool.and_eq_true, and_assoc]

theorem Item.valid_cmd {follow : Str} {doc : Option DocC} {call : Call} :
    (Item.cmd doc call).valid follow = true ↔
      docOptValid (call.render ++ follow) doc = true ∧ call.valid follow = true := by
  simp only [Item.valid, Bool.and_eq_true]

theorem Item.valid_block {follow : Str} {doc : Option DocC} {o : Call} {body : List Item} {c : Call} :
    (Item.block doc o body c).valid follow = true ↔
      docOptValid (o.render ++ (renderSrcItems body ++ (c.render ++ follow))) doc = true ∧
      o.valid (renderSrcItems body ++ (c.render ++ follow)) = true ∧ itemsValid (c.render ++ follow) body = true ∧
      c.valid follow = true := by
  simp only [Item.valid, Bool.and_eq_true, and_assoc]

theorem Item.valid_decl {follow : Str} {doc : Option DocC} {d i : Call} {body : List Item} {c : Call} :
    (Item.decl doc d i body c).valid follow = true ↔
      docOptValid (d.render ++ (i.render ++ (renderSrcItems body ++ (c.render ++ follow)))) doc = true ∧
      d.valid (i.render ++ (renderSrcItems body ++ (c.render ++ follow))) = true ∧
      i.valid (renderSrcItems body ++ (c.render ++ follow)) = true ∧ itemsValid (c.render ++ follow) body = true ∧
      c.valid follow = true := by
  simp only [Item.valid, Bool.and_eq_true, and_assoc]

theorem itemsValid_cons {follow : Str} {i : Item} {is : List Item} :
    itemsValid follow (i :: is) = true ↔ i.valid (renderSrcItems is ++ follow) = true ∧ itemsValid follow is = true := by
  simp only [itemsValid, Bool.and_eq_true]

theorem Module.valid_iff {m : Module} :
    m.valid = true ↔ m.danglingOk = true ∧
      (match m.modDoc with
       | some d => d.valid true (renderSrcItems m.items ++ renderSep m.tail)
       | none => true) = true ∧
      itemsValid (renderSep m.tail) m.items = true ∧ sepValid [] m.tail = true := by
  simp only [Module.valid, Bool.and_eq_true, and_assoc]

/-- the parser takes every argument token as an argument -/
theorem ArgTok.kind_isArg (t : ArgTok) : t.kind.isArg = true := by
  cases t with
  | bare s =>
    simp only [ArgTok.kind]
    split
    · rfl
    · split <;> rfl
  | quoted s => rfl
  | bracket lvl s =>
    simp only [ArgTok.kind]
    split <;> rfl

mutual
theorem parseFold_sarg (a : SArg) (p : Option Str) (n : Str) (stack : List (List Arg)) (cur : List Arg)
    (evs : List Event) (st : Bool) :
    parseFold ⟨.inArgs p n stack cur, evs, st⟩ a.sigToks = some ⟨.inArgs p n stack (a.toArg :: cur), evs, st⟩ := by
  cases a with
  | tok pre t => simp [SArg.sigToks, SArg.toArg, parseFold, parseStep, ArgTok.tok, t.kind_isArg]
  | group pre args close =>
    simp [SArg.sigToks, SArg.toArg, parseFold, parseStep, lparenTok, rparenTok, TokKind.isArg, parseFold_append,
      parseFold_sargs args p n (cur :: stack) [] evs st]
theorem parseFold_sargs (as : List SArg) (p : Option Str) (n : Str) (stack : List (List Arg)) (cur : List Arg)
    (evs : List Event) (st : Bool) :
    parseFold ⟨.inArgs p n stack cur, evs, st⟩ (sargsSigToks as) =
      some ⟨.inArgs p n stack ((toArgs as).reverse ++ cur), evs, st⟩ := by
  cases as with
  | nil => simp [sargsSigToks, toArgs, parseFold]
  | cons a as =>
    simp [sargsSigToks, toArgs, parseFold_append, parseFold_sarg a p n stack cur evs st,
      parseFold_sargs as p n stack (a.toArg :: cur) evs st]
end

theorem parseFold_call (c : Call) (p : Option Str) (evs : List Event) (st : Bool) :
    parseFold ⟨.top p, evs, st⟩ c.sigToks = some ⟨.top none, emitCmd p c.toCmd :: evs, false⟩ := by
  simp [Call.sigToks, parseFold, parseStep, lparenTok, rparenTok, parseFold_append, parseFold_sargs, TokKind.isArg,
    Call.toCmd]

theorem emitCmd_eq_docEvent (doc : Option DocC) (c : Call) :
    emitCmd (doc.map DocC.tokenText) c.toCmd = docEvent doc c := by
  cases doc <;> rfl

theorem parseFold_doc_call (doc : Option DocC) (c : Call) (p : Option Str) (evs : List Event) (st : Bool)
    (hp : p.isSome = true → doc.isSome = true) :
    parseFold ⟨.top p, evs, st⟩ (docOptToks doc ++ c.sigToks) =
      some ⟨.top none, docEvent doc c :: flushEvents p evs, false⟩ := by
  cases doc with
  | none =>
    obtain rfl : p = none := by simpa using hp
    exact parseFold_call c none evs st
  | some d =>
    -- the `Docstring` step computes: it flushes `p` and holds `d` back
    exact parseFold_call c (some d.tokenText) (flushEvents p evs) false

/- The invariant of `T_parse`.  `p` is the doccomment the parser holds back; flushing it (`flushEvents`: a doccomment
   that no command follows becomes a `dangling` event) after the item's tokens gives the item's events on top of what
   flushing before them gave, and a doccomment is held back afterwards iff the item is a dangling one. -/
mutual
theorem parseFold_item (i : Item) (p : Option Str) (evs : List Event) (st : Bool)
    (hok : i.danglingOk = true) (hp : p.isSome = true → i.startsWithDoc = true) :
    ∃ p' evs' st', parseFold ⟨.top p, evs, st⟩ i.sigToks = some ⟨.top p', evs', st'⟩ ∧
      flushEvents p' evs' = i.events.reverse ++ flushEvents p evs ∧ p'.isSome = i.isDangling := by
  cases i with
  | cmd doc call =>
    exact ⟨none, _, false, parseFold_doc_call doc call p evs st hp, by simp [flushEvents, Item.events], rfl⟩
  | block doc o body c =>
    have h1 := parseFold_doc_call doc o p evs st hp
    obtain ⟨p2, evs2, st2, h2, hf2, hp2⟩ := parseFold_items body true none
      (docEvent doc o :: flushEvents p evs) false (by simpa [Item.danglingOk] using hok) (by simp)
    cases hp2 rfl
    refine ⟨none, emitCmd none c.toCmd :: evs2, false, ?_, ?_, rfl⟩
    · simp only [Item.sigToks, parseFold_append, h1, h2, Option.bind_some, parseFold_call]
    · simp only [flushEvents] at hf2
      simp [flushEvents, Item.events, hf2, emitCmd]
  | decl doc d i body c =>
    have h1 := parseFold_doc_call doc d p evs st hp
    obtain ⟨p2, evs2, st2, h2, hf2, hp2⟩ := parseFold_items body true none
      (emitCmd none i.toCmd :: docEvent doc d :: flushEvents p evs) false
      (by simpa [Item.danglingOk] using hok) (by simp)
    cases hp2 rfl
    refine ⟨none, emitCmd none c.toCmd :: evs2, false, ?_, ?_, rfl⟩
    · simp only [Item.sigToks, parseFold_append, h1, h2, Option.bind_some, parseFold_call]
    · simp only [flushEvents] at hf2
      simp [flushEvents, Item.events, hf2, emitCmd]
  | dangling d =>
    exact ⟨some d.tokenText, flushEvents p evs, false, rfl, by simp [flushEvents, Item.events], rfl⟩
theorem parseFold_items (is : List Item) (inBody : Bool) (p : Option Str) (evs : List Event) (st : Bool)
    (hok : itemsDanglingOk inBody is = true) (hp : p.isSome = true → nextStartsDoc inBody is = true) :
    ∃ p' evs' st', parseFold ⟨.top p, evs, st⟩ (itemsSigToks is) = some ⟨.top p', evs', st'⟩ ∧
      flushEvents p' evs' = (itemsEvents is).reverse ++ flushEvents p evs ∧ (inBody = true → p' = none) := by
  cases is with
  | nil =>
    exact ⟨p, evs, st, by simp [itemsSigToks, parseFold], by simp [itemsEvents],
      fun hb => by simpa [nextStartsDoc, hb] using hp⟩
  | cons i is =>
    simp only [itemsDanglingOk, Bool.and_eq_true, Bool.or_eq_true, Bool.not_eq_eq_eq_not, Bool.not_true] at hok
    obtain ⟨⟨hi, hnext⟩, his⟩ := hok
    obtain ⟨p1, evs1, st1, h1, hf1, hp1⟩ := parseFold_item i p evs st hi (by simpa [nextStartsDoc] using hp)
    obtain ⟨p2, evs2, st2, h2, hf2, hp2⟩ := parseFold_items is inBody p1 evs1 st1 his
      fun h => hnext.resolve_left (by simp [← hp1, h])
    refine ⟨p2, evs2, st2, ?_, ?_, hp2⟩
    · simp only [itemsSigToks, parseFold_append, h1, Option.bind_some, h2]
    · rw [hf2, hf1]
      simp [itemsEvents]
end

/-- **T-parse**: on the significant tokens of a decorated module the parser delivers exactly the module's events,
    provided every `Item.dangling` is followed by a doccomment or ends the file. -/
theorem T_parse (m : Module) (hd : m.danglingOk = true) : parse m.sigToks = some m.events := by
  obtain ⟨bom, modDoc, items, tail⟩ := m
  cases modDoc with
  | none =>
    obtain ⟨p', evs', st', h, hf, -⟩ := parseFold_items items false none [] true hd (by simp)
    rw [parse_of_fold (ts := Module.sigToks ⟨bom, none, items, tail⟩) h, hf]
    simp [Module.events, flushEvents]
  | some d =>
    -- the module doccomment is the first step of the fold, which leaves the state `h` starts from
    obtain ⟨p', evs', st', h, hf, -⟩ := parseFold_items items false none [Event.moduleDoc d.tokenText] false hd
      (by simp)
    rw [parse_of_fold (ts := Module.sigToks ⟨bom, some d, items, tail⟩) h, hf]
    simp [Module.events, flushEvents]

theorem lex_sepAtom (a : SepAtom) (follow : Str) (hv : a.valid follow = true) : Skips a.render follow := by
  cases a with
  | spaces n => exact Skips.blanks _ _ (by simp [SepAtom.render, isBlank])
  | tabs n => exact Skips.blanks _ _ (by simp [SepAtom.render, isBlank])
  | nl crlf => exact Skips.eols _ _ (by cases crlf <;> simp [SepAtom.render, eolStr, isEolCh])
  | lineComment t eol =>
    simp only [SepAtom.valid, Bool.and_eq_true, Bool.or_eq_true, Bool.not_eq_eq_eq_not, Bool.not_true] at hv
    obtain ⟨⟨ht, hob⟩, he⟩ := hv
    cases eol with
    | some c => exact Skips.lineComment t c follow ht hob
    | none =>
      simp only [Option.isSome_none, Bool.false_eq_true, false_or, List.isEmpty_iff] at he
      rcases he with rfl | he
      · simpa [SepAtom.render] using Skips.lineComment_eof t ht hob
      · simpa [SepAtom.render] using Skips.lineComment_noeol t follow ht hob he
  | bracketComment lvl t =>
    simp only [SepAtom.valid, Bool.and_eq_true, Bool.or_eq_true, beq_iff_eq] at hv
    exact Skips.bracketComment lvl t follow hv.1 (hv.2.imp (fun hk h0 hh => by simp [h0, hh] at hk) id)

/-- a valid separator lexes to skipped tokens only -/
theorem T_lex_sep (sep : Sep) (follow : Str) (sig : List Tok) (hv : sepValid follow sep = true)
    (h : LexSig follow sig) : LexSig (renderSep sep ++ follow) sig := by
  induction sep with
  | nil => exact h
  | cons a as ih =>
    obtain ⟨ha, has⟩ := sepValid_cons.mp hv
    rw [renderSep, List.append_assoc]
    exact lex_sepAtom a _ ha _ (ih has)

/-- every argument token the printer emits is scanned as one token of its kind, with its text -/
theorem ArgTok.scan_text (t : ArgTok) (follow : Str) (hv : t.valid follow = true) :
    scan (t.text ++ follow) = some (t.kind, t.text.length) := by
  cases t with
  | bare s =>
    simp only [ArgTok.text, ArgTok.kind]
    by_cases hq : isQuotedText s = true
    · rw [if_pos hq]
      unfold isQuotedText at hq
      split at hq
      · rw [if_neg (by simp [isIdentText, identStart, asciiAlpha])]
        exact scan_quoted _ follow (by simpa using hq)
      · cases hq
    · simp only [ArgTok.valid, hq, Bool.false_or, Bool.and_eq_true, Bool.not_eq_eq_eq_not, Bool.not_true,
        beq_iff_eq] at hv
      obtain ⟨⟨⟨hne, hu⟩, hob⟩, hr⟩ := hv
      rw [scan_bare (by rintro rfl; cases hne) hu hob hr, if_neg hq]
  | quoted s =>
    simp only [ArgTok.valid, beq_iff_eq] at hv
    simpa [ArgTok.text, ArgTok.kind] using T_lex_tok_quoted s follow hv
  | bracket lvl s =>
    simp only [ArgTok.valid, Bool.and_eq_true, Bool.or_eq_true, bne_iff_ne, ne_eq] at hv
    obtain ⟨hf, hu⟩ := hv
    simp only [ArgTok.kind]
    split
    · rename_i hc
      exact T_lex_tok_bracket_unquoted lvl s follow hf hc (hu.resolve_left fun hn => hn hc)
    · rename_i hc
      exact T_lex_tok_bracket lvl s follow hf hc

theorem T_lex_tok (t : ArgTok) (follow : Str) (sig : List Tok) (hv : t.valid follow = true)
    (h : LexSig follow sig) : LexSig (t.text ++ follow) (t.tok :: sig) :=
  LexSig.tok_append (t.scan_text follow hv) (TokKind.skipped_of_isArg t.kind_isArg) h

theorem lex_lparen (rest : Str) (sig : List Tok) (h : LexSig rest sig) : LexSig ('(' :: rest) (lparenTok :: sig) :=
  LexSig.tok_append (tok := ['(']) (T_lex_tok_lparen rest) rfl h

theorem lex_rparen (rest : Str) (sig : List Tok) (h : LexSig rest sig) : LexSig (')' :: rest) (rparenTok :: sig) :=
  LexSig.tok_append (tok := [')']) (T_lex_tok_rparen rest) rfl h

mutual
theorem lex_sarg (a : SArg) (follow : Str) (sig : List Tok) (hv : a.valid follow = true)
    (h : LexSig follow sig) : LexSig (a.render ++ follow) (a.sigToks ++ sig) := by
  cases a with
  | tok pre t =>
    obtain ⟨hpre, ht⟩ := SArg.valid_tok.mp hv
    simp only [SArg.render, SArg.sigToks, List.append_assoc, List.cons_append, List.nil_append]
    exact T_lex_sep pre _ _ hpre (T_lex_tok t follow sig ht h)
  | group pre args close =>
    obtain ⟨hpre, hargs, hclose⟩ := SArg.valid_group.mp hv
    simp only [SArg.render, SArg.sigToks, List.append_assoc, List.cons_append, List.nil_append]
    refine T_lex_sep pre _ _ hpre (lex_lparen _ _ ?_)
    refine lex_sargs args _ _ hargs ?_
    exact T_lex_sep close _ _ hclose (lex_rparen _ _ h)
theorem lex_sargs (as : List SArg) (follow : Str) (sig : List Tok) (hv : sargsValid follow as = true)
    (h : LexSig follow sig) : LexSig (renderSArgs as ++ follow) (sargsSigToks as ++ sig) := by
  cases as with
  | nil => simpa [renderSArgs, sargsSigToks] using h
  | cons a as =>
    obtain ⟨ha, has⟩ := sargsValid_cons.mp hv
    simp only [renderSArgs, sargsSigToks, List.append_assoc]
    exact lex_sarg a _ _ ha (lex_sargs as follow sig has h)
end

theorem T_lex_call (c : Call) (follow : Str) (sig : List Tok) (hv : c.valid follow = true)
    (h : LexSig follow sig) : LexSig (c.render ++ follow) (c.sigToks ++ sig) := by
  obtain ⟨hname, hpre, hargs, hclose⟩ := Call.valid_iff.mp hv
  simp only [Call.render, Call.sigToks, List.append_assoc, List.cons_append, List.nil_append]
  refine T_lex_sep c.pre _ _ hpre ?_
  have hstop : stopHead (List.replicate c.sp ' ' ++
      '(' :: (renderSArgs c.args ++ (renderSep c.close ++ ')' :: follow))) = true := by
    cases c.sp <;> simp [stopHead, unqStop, List.replicate_succ]
  refine LexSig.tok_append (T_lex_tok_identifier hname hstop) rfl ?_
  refine Skips.blanks _ _ (by simp [isBlank]) _ (lex_lparen _ _ ?_)
  refine lex_sargs c.args _ _ hargs ?_
  exact T_lex_sep c.close _ _ hclose (lex_rparen _ _ h)

theorem DocC.tokenText_eq_inner (d : DocC) : d.tokenText = docStart ++ (d.inner ++ docEnd) := by
  simp [DocC.tokenText, DocC.inner]

/-- a doccomment block is one `Docstring` (`Module_docstring`) token -/
theorem T_lex_doc (d : DocC) (isModule : Bool) (follow : Str) (sig : List Tok)
    (hv : d.valid isModule follow = true) (h : LexSig follow sig) :
    LexSig (d.render ++ follow) (⟨if isModule then .moduleDocstring else .docstring, d.tokenText⟩ :: sig) := by
  simp only [DocC.valid, Bool.and_eq_true, beq_iff_eq] at hv
  obtain ⟨⟨⟨hpre, hind⟩, hf⟩, hsuf⟩ := hv
  simp only [DocC.render, List.append_assoc]
  refine T_lex_sep d.pre _ _ hpre (Skips.blanks _ _ hind _ ?_)
  have hf' : findAfter docEnd (d.inner ++ docEnd ++ follow) = some (d.inner.length + 3) := findAfter_append follow hf
  have hlen : d.tokenText.length = d.inner.length + 3 + 4 := by
    rw [DocC.tokenText_eq_inner]
    simp [docStart_eq, docEnd_eq]
  have hsplit : d.tokenText ++ follow = docStart ++ (d.inner ++ docEnd ++ follow) := by
    rw [DocC.tokenText_eq_inner]
    simp
  -- the `@module` test sees only the opening line, which `hsuf` speaks of
  have hg : (lit "@module").isPrefixOf ((d.inner ++ docEnd ++ follow).dropWhile isBlank) = isModule := by
    rw [hsuf]
    simp only [DocC.inner, List.append_assoc]
    cases d.crlf <;> exact moduleGuard_append_eol _ _ _ rfl
  have hsc := scan_doc _ _ hf'
  rw [hg, ← hsplit, ← hlen] at hsc
  exact LexSig.tok_append hsc (by cases isModule <;> rfl) h

theorem lex_docOpt (doc : Option DocC) (follow : Str) (sig : List Tok) (hv : docOptValid follow doc = true)
    (h : LexSig follow sig) : LexSig (renderDocOpt doc ++ follow) (docOptToks doc ++ sig) := by
  cases doc with
  | none => simpa [renderDocOpt, docOptToks] using h
  | some d => simpa [renderDocOpt, docOptToks, DocC.tok] using T_lex_doc d false follow sig hv h

mutual
theorem lex_item (i : Item) (follow : Str) (sig : List Tok) (hv : i.valid follow = true)
    (h : LexSig follow sig) : LexSig (i.render ++ follow) (i.sigToks ++ sig) := by
  cases i with
  | cmd doc call =>
    obtain ⟨hdoc, hcall⟩ := Item.valid_cmd.mp hv
    simp only [Item.render, Item.sigToks, List.append_assoc]
    exact lex_docOpt doc _ _ hdoc (T_lex_call call follow sig hcall h)
  | block doc o body c =>
    obtain ⟨hdoc, ho, hbody, hc⟩ := Item.valid_block.mp hv
    simp only [Item.render, Item.sigToks, List.append_assoc]
    refine lex_docOpt doc _ _ hdoc (T_lex_call o _ _ ho ?_)
    exact T_lex_items body _ _ hbody (T_lex_call c follow sig hc h)
  | decl doc d i body c =>
    obtain ⟨hdoc, hd, hi, hbody, hc⟩ := Item.valid_decl.mp hv
    simp only [Item.render, Item.sigToks, List.append_assoc]
    refine lex_docOpt doc _ _ hdoc (T_lex_call d _ _ hd (T_lex_call i _ _ hi ?_))
    exact T_lex_items body _ _ hbody (T_lex_call c follow sig hc h)
  | dangling d =>
    simp only [Item.valid] at hv
    simpa [Item.render, Item.sigToks, DocC.tok] using T_lex_doc d false follow sig hv h
theorem T_lex_items (is : List Item) (follow : Str) (sig : List Tok) (hv : itemsValid follow is = true)
    (h : LexSig follow sig) : LexSig (renderSrcItems is ++ follow) (itemsSigToks is ++ sig) := by
  cases is with
  | nil => simpa [renderSrcItems, itemsSigToks] using h
  | cons i is =>
    obtain ⟨hi, his⟩ := itemsValid_cons.mp hv
    simp only [renderSrcItems, itemsSigToks, List.append_assoc]
    exact lex_item i _ _ hi (T_lex_items is follow sig his h)
end

/-- the body of the file (everything after the byte-order mark) -/
def Module.renderBody (m : Module) : Str := renderDocOpt m.modDoc ++ renderSrcItems m.items ++ renderSep m.tail

theorem lex_module_body (m : Module) (hv : m.valid = true) : LexSig m.renderBody m.sigToks := by
  obtain ⟨-, hdoc, hitems, htail⟩ := Module.valid_iff.mp hv
  have h1 : LexSig (renderSep m.tail) [] := by simpa using T_lex_sep m.tail [] [] htail LexSig.nil
  have h2 := T_lex_items m.items _ _ hitems h1
  simp only [List.append_nil] at h2
  simp only [Module.renderBody, Module.sigToks, List.append_assoc]
  cases hm : m.modDoc with
  | none => simpa [renderDocOpt] using h2
  | some d =>
    rw [hm] at hdoc
    simpa [renderDocOpt] using T_lex_doc d true _ _ hdoc h2

theorem call_sigToks_head (c : Call) (rest : List Tok) :
    ∃ t ts, c.sigToks ++ rest = t :: ts ∧ t.kind = .identifier := ⟨_, _, rfl, rfl⟩

def bomChar : Char := Char.ofNat 0xFEFF

theorem starts_bom {k : TokKind} (h : k.starts bomChar = true) : k = .unquoted := by
  revert h
  cases k <;> decide

/-- The body of a valid module does not begin with a byte-order mark.  The proof asks the scanner and the parser instead of
going through everything a module's text can begin with (filler, a doccomment, a command name): the body lexes
(`lex_module_body`), a byte-order mark can only begin an `Unquoted_argument`, and the parser, which accepts the
module's significant tokens (`T_parse`), accepts no token of that kind first. -/
theorem renderBody_head (m : Module) (hv : m.valid = true) (x : Str) : m.renderBody ≠ bomChar :: x := by
  intro hx
  obtain ⟨ts, hl, hs⟩ := lex_module_body m hv
  rw [hx] at hl
  cases hl with
  | @cons _ k n ts' hsc hl' =>
    obtain ⟨sc, hr, -⟩ := scan_rule hsc
    cases starts_bom (ruleScore_starts hr)
    -- the first significant token is an `Unquoted_argument`, which the parser does not accept there (`T_parse`)
    change ⟨.unquoted, (bomChar :: x).take n⟩ :: significant ts' = m.sigToks at hs
    have hp := T_parse m (Module.valid_iff.mp hv).1
    rw [← hs] at hp
    obtain ⟨_, _, _, hf, -⟩ := parse_some hp
    simp [parseFold, parseStep] at hf

theorem dropBom_of_head {s : Str} (h : ∀ x, s ≠ bomChar :: x) : dropBom s = s := by
  cases s with
  | nil => rfl
  | cons c cs =>
    refine if_neg fun hc => h cs ?_
    rw [← Char.ofNat_toNat c, hc]
    rfl

theorem dropBom_render (m : Module) (hv : m.valid = true) : dropBom m.render = m.renderBody := by
  simp only [Module.render, Module.renderBody]
  cases m.bom with
  | true => simp [dropBom]
  | false =>
    simp only [Bool.false_eq_true, if_false, List.nil_append]
    exact dropBom_of_head (renderBody_head m hv)

/-- **T-lex**: the text printed for a valid decorated module lexes without error, and what the parser gets to
    see is the module's significant token sequence — whatever the layout. -/
theorem T_lex (m : Module) (hv : m.valid = true) :
    ∃ ts, lexAll (dropBom m.render) = .ok ts ∧ significant ts = m.sigToks := by
  rw [dropBom_render m hv]
  exact (lex_module_body m hv).lexAll

theorem valid_danglingOk (m : Module) (hv : m.valid = true) : m.danglingOk = true :=
  (Module.valid_iff.mp hv).1

theorem Call.valid_name {c : Call} {follow : Str} (h : c.valid follow = true) : isIdentText c.name = true :=
  (Call.valid_iff.mp h).1

mutual
theorem Item.valid_namesOk (i : Item) (follow : Str) (h : i.valid follow = true) : i.namesOk = true := by
  cases i with
  | cmd doc c =>
    simpa [Item.namesOk] using Call.valid_name (Item.valid_cmd.mp h).2
  | block doc o body c =>
    obtain ⟨-, ho, hb, hc⟩ := Item.valid_block.mp h
    simp [Item.namesOk, Call.valid_name ho, Call.valid_name hc, itemsValid_namesOk body _ hb]
  | decl doc d i body c =>
    obtain ⟨-, hd, hi, hb, hc⟩ := Item.valid_decl.mp h
    simp [Item.namesOk, Call.valid_name hd, Call.valid_name hi, Call.valid_name hc, itemsValid_namesOk body _ hb]
  | dangling d => rfl
theorem itemsValid_namesOk (is : List Item) (follow : Str) (h : itemsValid follow is = true) :
    itemsNamesOk is = true := by
  cases is with
  | nil => rfl
  | cons i is =>
    obtain ⟨hi, his⟩ := itemsValid_cons.mp h
    simp [itemsNamesOk, Item.valid_namesOk i _ hi, itemsValid_namesOk is follow his]
end

theorem valid_namesOk (m : Module) (hv : m.valid = true) : m.namesOk = true :=
  itemsValid_namesOk m.items _ (Module.valid_iff.mp hv).2.2.1

/-- **T-roundtrip**: lexing and parsing the printed text of a valid decorated module gives back the module's
    own events -/
theorem T_roundtrip (m : Module) (hv : m.valid = true) :
    ∃ ts, lexAll (dropBom m.render) = .ok ts ∧ parse (significant ts) = some m.events := by
  obtain ⟨ts, h1, h2⟩ := T_lex m hv
  exact ⟨ts, h1, by rw [h2]; exact T_parse m (valid_danglingOk m hv)⟩

/-- **C04, token level**: two valid decorated modules with the same significant tokens (layout variants of each
    other) give the parser the same input -/
theorem T_lex_layout (m₁ m₂ : Module) (h₁ : m₁.valid = true) (h₂ : m₂.valid = true)
    (hs : m₁.sigToks = m₂.sigToks) :
    ∃ ts₁ ts₂, lexAll (dropBom m₁.render) = .ok ts₁ ∧ lexAll (dropBom m₂.render) = .ok ts₂ ∧
      significant ts₁ = significant ts₂ := by
  obtain ⟨ts₁, a1, a2⟩ := T_lex m₁ h₁
  obtain ⟨ts₂, b1, b2⟩ := T_lex m₂ h₂
  exact ⟨ts₁, ts₂, a1, b1, by rw [a2, b2, hs]⟩

/-! ### the generator's guarantee for doccomments: no line contains `]]`

`DocC.valid` asks that `#]]` first occurs at the end of the block.  A simple sufficient condition: neither the
opening line nor any body line contains `]]`, and the indentation consists of blanks. -/

/-- no `]]` in the opening line or in any body line -/
def DocC.noCloserInside (d : DocC) : Bool :=
  !isInfix ([']', ']'] : Str) d.openSuffix && d.lines.all (fun t => !isInfix ([']', ']'] : Str) t)

-- `noCC`: no `]]`, hence no `#]]`, which would close the doccomment early
theorem noCC_eol (a b : Str) (crlf : Bool) (ha : isInfix [']', ']'] a = false) (hb : isInfix [']', ']'] b = false) :
    isInfix [']', ']'] (a ++ (eolStr crlf ++ b)) = false := by
  cases crlf
  · exact isInfix_append_cons (by decide) ha hb
  · exact isInfix_append_cons (by decide) ha (isInfix_append_cons (a := []) (by decide) rfl hb)

theorem noCC_blank (s : Str) (h : s.all isBlank = true) : isInfix [']', ']'] s = false :=
  isInfix_of_not_mem (c := ']') (by simp) fun hm => absurd (List.all_eq_true.mp h _ hm) (by decide)

theorem noCC_bodyLine (d : DocC) (t : Str) (hind : d.ind.all isBlank = true) (ht : isInfix [']', ']'] t = false) :
    isInfix [']', ']'] (d.bodyLine t) = false := by
  unfold DocC.bodyLine
  split
  · refine isInfix_append_cons (by decide) (noCC_blank _ hind) ?_
    split
    · rfl
    · exact isInfix_append_cons (a := []) (by decide) rfl ht
  · exact ht

theorem DocC.inner_noCC (d : DocC) (hind : d.ind.all isBlank = true) (h : d.noCloserInside = true) :
    isInfix [']', ']'] d.inner = false := by
  simp only [DocC.noCloserInside, Bool.and_eq_true, Bool.not_eq_eq_eq_not, Bool.not_true, List.all_eq_true] at h
  obtain ⟨hos, hlines⟩ := h
  unfold DocC.inner
  refine noCC_eol _ _ _ hos ?_
  generalize d.lines = ls at hlines
  induction ls with
  | nil => simpa using noCC_blank _ hind
  | cons l ls ih =>
    simp only [List.map_cons, List.flatten_cons, List.append_assoc]
    exact noCC_eol _ _ _ (noCC_bodyLine d l hind (hlines l (by simp))) (ih (fun x hx => hlines x (by simp [hx])))

theorem findAfter_docEnd_of_noCC (x : Str) (h : isInfix [']', ']'] x = false) :
    findAfter docEnd (x ++ docEnd) = some (x.length + 3) := by
  have h2 : isInfix [']', ']'] (x ++ ['#', ']']) = false := isInfix_append_cons (by decide) h rfl
  rw [← Bool.not_eq_true, isInfix_iff] at h2
  rw [docEnd_eq]
  exact (findAfter_end_iff (p := ['#', ']'])).2 fun hi => h2 (.trans ⟨['#'], [], rfl⟩ hi)

theorem DocC.closesAtEnd_of_noCloserInside (d : DocC) (hind : d.ind.all isBlank = true)
    (h : d.noCloserInside = true) : findAfter docEnd (d.inner ++ docEnd) = some (d.inner.length + 3) :=
  findAfter_docEnd_of_noCC _ (d.inner_noCC hind h)

theorem LexSig_iff (s : Str) (sig : List Tok) :
    LexSig s sig ↔ ∃ ts, lexAll s = .ok ts ∧ significant ts = sig := by
  constructor
  · exact LexSig.lexAll
  · rintro ⟨ts, h1, h2⟩
    exact ⟨ts, lexAll_eq_ok_iff.mp h1, h2⟩

/-! ## a concrete valid module (the hypotheses are not vacuous)

```
#[[[
# Doc of f
#]]
function(f "a\"b" [=[x ]] y]=] (g h) # c
  z)
#[[ bc ]]
endfunction()
```
a documented function with a quoted argument containing an escaped quote, a bracket argument, a parenthesised
group, a line comment between arguments and a bracket comment before a command. -/

def exLexDoc : DocC :=
  { pre := [], ind := [], openSuffix := [], lines := [['D', 'o', 'c', ' ', 'o', 'f', ' ', 'f']], leader := true, crlf := false }

def exLexOpener : Call :=
  { pre := [.nl false], name := ['f', 'u', 'n', 'c', 't', 'i', 'o', 'n'], sp := 0,
    args := [.tok [] (.bare ['f']),
             .tok [.spaces 1] (.quoted ['a', '\\', '"', 'b']),
             .tok [.spaces 1] (.bracket 1 ['x', ' ', ']', ']', ' ', 'y']),
             .group [.spaces 1] [.tok [] (.bare ['g']), .tok [.spaces 1] (.bare ['h'])] [],
             .tok [.spaces 1, .lineComment [' ', 'c'] (some false), .spaces 2] (.bare ['z'])],
    close := [] }

def exLexCloser : Call :=
  { pre := [.nl false, .bracketComment 0 [' ', 'b', 'c', ' '], .nl false], name := ['e', 'n', 'd', 'f', 'u', 'n', 'c', 't', 'i', 'o', 'n'], sp := 0,
    args := [], close := [] }

def exLexModule : Module :=
  { bom := false, modDoc := none, items := [.block (some exLexDoc) exLexOpener [] exLexCloser], tail := [.nl false] }

theorem exLexModule_valid : exLexModule.valid = true := by decide +kernel

example : exLexModule.valid = true := exLexModule_valid

example : exLexModule.render =
    ['#', '[', '[', '[', '\n', '#', ' ', 'D', 'o', 'c', ' ', 'o', 'f', ' ', 'f', '\n', '#', ']', ']', '\n', 'f', 'u', 'n', 'c', 't', 'i', 'o', 'n', '(', 'f', ' ', '"', 'a', '\\', '"', 'b', '"', ' ', '[', '=', '[', 'x', ' ', ']', ']', ' ', 'y', ']', '=', ']', ' ', '(', 'g', ' ', 'h', ')', ' ', '#', ' ', 'c', '\n', ' ', ' ', 'z', ')', '\n', '#', '[', '[', ' ', 'b', 'c', ' ', ']', ']', '\n', 'e', 'n', 'd', 'f', 'u', 'n', 'c', 't', 'i', 'o', 'n', '(', ')', '\n'] := by
  decide +kernel

/-- a bare word directly followed by a bare word is *not* valid (the two would lex as one token) -/
example : (SArg.tok [] (.bare ['a'])).valid ['b', ')'] = false := by decide +kernel

/-- K3: a level-0 bracket comment whose text starts with `[` is the doccomment opener `#[[[`; it is a comment only
    if no `#]]` follows anywhere -/
example : (SepAtom.bracketComment 0 ['[', 'x']).valid ['\n', '#', ']', ']'] = false := by decide +kernel
example : (SepAtom.bracketComment 0 ['[', 'x']).valid ['\n', 'f', '(', ')'] = true := by decide +kernel

/-- a line comment without line ending in the middle of a line swallows what follows -/
example : (SepAtom.lineComment [' ', 'c'] none).valid ['x'] = false := by decide +kernel
example : (SepAtom.lineComment [' ', 'c'] none).valid ['\n', 'x'] = true := by decide +kernel

end Cminx
