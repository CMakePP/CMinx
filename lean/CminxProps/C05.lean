import CminxProps.TLex
import CminxProps.TAgg
/-!
# C05 — every grammatical, block-balanced file is processed to completion; CMinx sees CMake's commands

The reference syntax is the decorated module of `CminxModel/Source.lean` (`Module`, written from
cmake-language(7) plus the doccomment convention) and its printer `Module.render`.  "Conforms to the CMake
language grammar" is `Module.valid` (`CminxProps/TLex.lean`: every token and every piece of filler is what the
CMake lexer would make of it in its context; legacy unquoted arguments are not generated by the printer, so they
are outside), "blocks balanced as CMake and CMakePP require" is `itemsWf` (`CminxModel/Spec.lean`).

The central chain `render → dropBom → lexAll → significant → parse → aggregate → processDocs → Doc.render` is
composed from `T_roundtrip` (`TLex.lean`) and `T_agg` (`TAgg.lean`): the page CMinx writes for the printed text of a
valid, well-formed module is the page of the structural specification `Module.entries` (`T_pipeline`) — no lexer
error, no parser error, no exception in a listener callback, a page comes out (`C05_accepted`).  The events the
parser hands to the listener are the module's own, and the commands in them are exactly the module's command
invocations, in source order, each with the name as written and the argument structure of the reference syntax
(`toArgs`: one `Arg.single` per argument token carrying the token's text `ArgTok.text`, one `Arg.compound` per
parenthesised group) (`C05_boundaries`, `C05_commands`).

That the reference syntax agrees with CMake itself is not a Lean statement: the harness runs the very texts
`Module.render` produces through `cmake --trace` and compares command names and argument boundaries
(suite `s_cmake`).

The hypothesis `hk1` keeps `T_pipeline` outside known finding K1 (see `T_agg_K1_counterexample`); it holds for
every module under the default configuration (`C05_accepted_default`).
-/
namespace Cminx

/-! ## `documentedOf` and `pipeline` see the source text only through its significant tokens -/

theorem documentedOf_of_ok (cfg : Cfg) {src : Str} {ts : List Tok} {evs : List Event} {st : AggState}
    (hl : lexAll (dropBom src) = .ok ts) (hp : parse (significant ts) = some evs)
    (ha : aggregate cfg evs = .ok st) : documentedOf cfg src = .ok st.documented := by
  simp only [documentedOf, hl, hp, ha]

theorem documentedOf_same_significant (cfg : Cfg) {s₁ s₂ : Str} {ts₁ ts₂ : List Tok}
    (h₁ : lexAll (dropBom s₁) = .ok ts₁) (h₂ : lexAll (dropBom s₂) = .ok ts₂)
    (hs : significant ts₁ = significant ts₂) : documentedOf cfg s₁ = documentedOf cfg s₂ := by
  simp only [documentedOf, h₁, h₂, hs]

theorem pipeline_congr (cfg : Cfg) (hdrs : List Str) (title modName : Str) {s₁ s₂ : Str}
    (h : documentedOf cfg s₁ = documentedOf cfg s₂) :
    pipeline cfg hdrs title modName s₁ = pipeline cfg hdrs title modName s₂ := by
  cases hdrs with
  | nil => rfl
  | cons hc hs => simp only [pipeline, h]

/-- The printed text of a valid module reaches the listener as the module's own events (`T_roundtrip`), so the
    `documented` list is whatever the listener makes of them. -/
theorem documentedOf_render (cfg : Cfg) {m : Module} (hv : m.valid = true) {st : AggState}
    (ha : aggregate cfg m.events = .ok st) : documentedOf cfg m.render = .ok st.documented := by
  obtain ⟨ts, hl, hp⟩ := T_roundtrip m hv
  exact documentedOf_of_ok cfg hl hp ha

/-- the `documented` list CMinx builds from the printed text of a valid, well-formed module is the list the
    structural specification reads off the module -/
theorem T_documented (cfg : Cfg) (m : Module) (hv : m.valid = true) (hwf : itemsWf false m.items = true)
    (hk1 : cfg.inclCppClass = true ∨ itemsHaveDocumentedClass m.items = false) :
    documentedOf cfg m.render = .ok (m.entries cfg) := by
  obtain ⟨st, ha, hd, -⟩ := T_agg cfg m hwf hk1
  rw [documentedOf_render cfg hv ha, hd]

/-- **T-pipeline**: the page written for the printed text of a valid, well-formed module -/
theorem T_pipeline (cfg : Cfg) (hc : Str) (hs : List Str) (title modName : Str) (m : Module)
    (hv : m.valid = true) (hwf : itemsWf false m.items = true)
    (hk1 : cfg.inclCppClass = true ∨ itemsHaveDocumentedClass m.items = false) :
    pipeline cfg (hc :: hs) title modName m.render =
      .ok (processDocs hc title modName (m.entries cfg)).render := by
  simp only [pipeline, T_documented cfg m hv hwf hk1]

/-- every valid, well-formed file is processed to completion without error -/
theorem C05_accepted (cfg : Cfg) (hc : Str) (hs : List Str) (title modName : Str) (m : Module)
    (hv : m.valid = true) (hwf : itemsWf false m.items = true)
    (hk1 : cfg.inclCppClass = true ∨ itemsHaveDocumentedClass m.items = false) :
    ∃ out, pipeline cfg (hc :: hs) title modName m.render = .ok out :=
  ⟨_, T_pipeline cfg hc hs title modName m hv hwf hk1⟩

/-- under the default settings (and whenever `include_undocumented_cpp_class` is on) there is no side condition
    besides validity and well-formedness -/
theorem C05_accepted_default (hc : Str) (hs : List Str) (title modName : Str) (m : Module)
    (hv : m.valid = true) (hwf : itemsWf false m.items = true) :
    ∃ out, pipeline {} (hc :: hs) title modName m.render = .ok out :=
  C05_accepted {} hc hs title modName m hv hwf (Or.inl rfl)

/-- stage by stage: the scanner accepts the whole text, the parser accepts the significant tokens, no listener
    callback raises, no parameter-count error is logged, and all stacks are empty at the end of the walk -/
theorem C05_accepted_stages (cfg : Cfg) (m : Module)
    (hv : m.valid = true) (hwf : itemsWf false m.items = true)
    (hk1 : cfg.inclCppClass = true ∨ itemsHaveDocumentedClass m.items = false) :
    ∃ ts evs st, lexAll (dropBom m.render) = .ok ts ∧ parse (significant ts) = some evs ∧
      aggregate cfg evs = .ok st ∧ st.errors = 0 ∧ st.classStack = [] ∧ st.defStack = [] ∧ st.awaiting = none := by
  obtain ⟨ts, hl, hp⟩ := T_roundtrip m hv
  obtain ⟨st, ha, -, he, h1, h2, h3⟩ := T_agg cfg m hwf hk1
  exact ⟨ts, _, st, hl, hp, ha, he, h1, h2, h3⟩

mutual
/-- the command invocations of an element in source order: for a block the opening command, the commands of the
    body, the closing command; for a member/test declaration the declaration, the implementing
    `function`/`macro` command, the body, the closing command; a dangling doccomment has none -/
def Item.commands : Item → List Cmd
  | .cmd _ call => [call.toCmd]
  | .block _ o body c => o.toCmd :: (itemsCommands body ++ [c.toCmd])
  | .decl _ d i body c => d.toCmd :: i.toCmd :: (itemsCommands body ++ [c.toCmd])
  | .dangling _ => []
def itemsCommands : List Item → List Cmd
  | [] => []
  | i :: is => i.commands ++ itemsCommands is
end

/-- the command invocations of the abstract module in source order; `Call.toCmd c = ⟨c.name, toArgs c.args⟩`: the
    name as written, the arguments with their boundaries and nesting as in the reference syntax -/
def Module.commands (m : Module) : List Cmd := itemsCommands m.items

/-- the command invocations the listener is shown -/
def eventsCommands : List Event → List Cmd
  | [] => []
  | .cmd c :: es => c :: eventsCommands es
  | .docCmd _ c :: es => c :: eventsCommands es
  | .moduleDoc _ :: es => eventsCommands es
  | .dangling :: es => eventsCommands es

theorem eventsCommands_append (a b : List Event) : eventsCommands (a ++ b) = eventsCommands a ++ eventsCommands b := by
  induction a with
  | nil => rfl
  | cons e es ih => cases e <;> simp [eventsCommands, ih]

theorem eventsCommands_docEvent (doc : Option DocC) (c : Call) (es : List Event) :
    eventsCommands (docEvent doc c :: es) = c.toCmd :: eventsCommands es := by
  cases doc <;> simp [docEvent, eventsCommands]

mutual
theorem Item.eventsCommands_events : (i : Item) → eventsCommands i.events = i.commands
  | .cmd doc call => by simp [Item.events, Item.commands, eventsCommands_docEvent, eventsCommands]
  | .block doc o body c => by
    simp [Item.events, Item.commands, eventsCommands_docEvent, eventsCommands_append, eventsCommands,
      itemsEventsCommands body]
  | .decl doc d i body c => by
    simp [Item.events, Item.commands, eventsCommands_docEvent, eventsCommands_append, eventsCommands,
      itemsEventsCommands body]
  | .dangling _ => by simp [Item.events, Item.commands, eventsCommands]
theorem itemsEventsCommands : (is : List Item) → eventsCommands (itemsEvents is) = itemsCommands is
  | [] => by simp [itemsEvents, itemsCommands, eventsCommands]
  | i :: is => by
    simp [itemsEvents, itemsCommands, eventsCommands_append, Item.eventsCommands_events i, itemsEventsCommands is]
end

/-- the events of a module show exactly its command invocations, in source order -/
theorem C05_commands (m : Module) : eventsCommands m.events = m.commands := by
  unfold Module.events Module.commands
  cases m.modDoc <;> simp [eventsCommands, itemsEventsCommands]

/-- the number of commands CMinx sees is the number of commands in the file -/
theorem C05_command_count (m : Module) : (eventsCommands m.events).length = m.commands.length := by
  rw [C05_commands]

/-- **same command invocations, same argument boundaries**: the printed text of a valid module lexes and parses
    (validity alone suffices — no balance condition is needed for this half), the listener events are the
    module's own, and the commands in them are the module's command invocations -/
theorem C05_boundaries (m : Module) (hv : m.valid = true) :
    ∃ ts evs, lexAll (dropBom m.render) = .ok ts ∧ parse (significant ts) = some evs ∧ evs = m.events ∧
      eventsCommands evs = m.commands := by
  obtain ⟨ts, hl, hp⟩ := T_roundtrip m hv
  exact ⟨ts, _, hl, hp, rfl, C05_commands m⟩

/-- what "the same argument boundaries" means for a command whose arguments are plain tokens: one argument per
    token, carrying exactly the token's text (quotes and bracket delimiters included) -/
theorem C05_boundaries_tokens (c : Call) (ts : List (Sep × ArgTok))
    (h : c.args = ts.map (fun p => SArg.tok p.1 p.2)) :
    c.toCmd = ⟨c.name, ts.map (fun p => Arg.single p.2.text)⟩ := by
  simp [Call.toCmd, h, toArgs_toks]

/-- a parenthesised group is one (compound) argument holding its own arguments -/
theorem C05_boundaries_group (pre close : Sep) (args rest : List SArg) :
    toArgs (SArg.group pre args close :: rest) = Arg.compound (toArgs args) :: toArgs rest := by
  simp [toArgs, SArg.toArg]

/-! ## non-vacuity -/

/-- `exModule` of `TAgg.lean` (module doccomment, documented function with a nested `if`, class with a member,
    test with a section, `set`, generic command; one command per line) is valid -/
theorem exModule_valid : exModule.valid = true := by
  simp only [exModule, mkCall, mkDoc, List.map]
  repeat rw [String.toList_ofList]
  decide +kernel

/-- … and well formed, so `T_pipeline` applies to it -/
example (hc title modName : Str) :
    pipeline {} [hc] title modName exModule.render =
      .ok (processDocs hc title modName (exModule.entries {})).render :=
  T_pipeline {} hc [] title modName exModule exModule_valid exModule_wf (Or.inl rfl)

example : exModule.commands.length = 18 := by decide

/-- the module with a quoted argument, a bracket argument, a parenthesised group, a line comment between
    arguments and a bracket comment before a command (`exLexModule` of `TLex.lean`) -/
example (hc title modName : Str) : ∃ out, pipeline {} [hc] title modName exLexModule.render = .ok out :=
  C05_accepted_default hc [] title modName exLexModule exLexModule_valid (by decide +kernel)

example : exLexModule.commands =
    [⟨lit "function",
       [.single (lit "f"), .single (lit "\"a\\\"b\""), .single (lit "[=[x ]] y]=]"),
        .compound [.single (lit "g"), .single (lit "h")], .single (lit "z")]⟩,
     ⟨lit "endfunction", []⟩] := by
  repeat rw [lit_ofList]
  rfl

example : ∃ ts evs, lexAll (dropBom exLexModule.render) = .ok ts ∧ parse (significant ts) = some evs ∧
    evs = exLexModule.events ∧ eventsCommands evs = exLexModule.commands :=
  C05_boundaries exLexModule exLexModule_valid

end Cminx
