import CminxModel.Pipeline
import CminxLemmas.ScanLemmas
import CminxLemmas.Except
import CminxLemmas.ParseLemmas
/-!
# C06 — lexical and syntactic faults are fatal; no output from a view of the file with characters skipped

Scanner: a successful `lexAll` is lossless, every token has the shape of its grammar rule, and each fault class
but one makes `scan` answer `none` at the position of the fault — which makes `lexAll` (and the pipeline) fail with
that position as soon as the scanner gets there (`Reaches`).  The exception is `#[[[` with no `]]` after it: there `scan`
answers `Doccomment_start` (`C06_unterminated_bracket_comment_doc`), a token the parser rejects in every state
(`C06_parse_rejects_kind`), so that fault is a syntax error.  Parser: unbalanced parentheses, a bare word between
commands and tokens of no parser rule are rejected, and what is accepted is a reading of all significant tokens, in
order (`C06_parse_exact`).  Pipeline: a lexical or syntax error is the pipeline's result, and output exists only
after a complete lex and parse (`C06_output_accounts_for_source`).
-/
namespace Cminx

/-! ## Scanner: a successful `lexAll` loses nothing -/

/-- every source character lies in exactly one token, in order -/
theorem C06_lex_lossless {s : Str} {ts : List Tok} (h : lexAll s = .ok ts) :
    (ts.map Tok.text).flatten = s :=
  (lexAll_eq_ok_iff.mp h).flatten

theorem C06_lex_nonempty {s : Str} {ts : List Tok} (h : lexAll s = .ok ts) : ∀ t ∈ ts, t.text ≠ [] :=
  (lexAll_eq_ok_iff.mp h).forall fun s k n hsc => by
    obtain ⟨-, -, hn⟩ := scan_rule hsc
    simp [List.take_eq_nil_iff, hn, scan_ne_nil hsc]

/-! ## Scanner: every token has the shape of its rule (`Tok.WF`, `C06_scan_wf`) -/

/-- Reading `s` left to right as a sequence of elements — a backslash together with the next character, or
    any other single character — every backslash is followed by a character `d` with `escOk d` (so `s` does not
    end in a lone backslash) and no other element satisfies `stop`. -/
def escClean (stop : Char → Bool) : Str → Bool
  | [] => true
  | c :: rest =>
    if c = '\\' then
      match rest with
      | [] => false
      | d :: rest' => escOk d && escClean stop rest'
    else !stop c && escClean stop rest

/-- `[`, n × `=`, `[`, body, `]`, n × `=`, `]` -/
def IsBracket (t : Str) : Prop :=
  ∃ (n : Nat) (body : Str), t = '[' :: (List.replicate n '=' ++ '[' :: (body ++ ']' :: (List.replicate n '=' ++ [']'])))

/-- the shape of a token of each kind -/
def Tok.WF (t : Tok) : Prop :=
  match t.kind with
  | .lparen => t.text = ['(']
  | .rparen => t.text = [')']
  | .moduleDocstring =>
      ∃ blanks body, t.text = lit "#[[[" ++ blanks ++ lit "@module" ++ body ++ lit "#]]" ∧
        blanks.all (fun c => c == ' ' || c == '\t') = true
  | .docstring => ∃ body, t.text = lit "#[[[" ++ body ++ lit "#]]"
  | .doccommentStart => t.text = lit "#[[["
  | .blockcommentEnd => t.text = lit "#]]"
  | .identifier => ∃ c cs, t.text = c :: cs ∧ identStart c = true ∧ (c :: cs).all identChar = true
  | .unquoted => t.text ≠ [] ∧ escClean unqStop t.text = true
  | .escapeSequence => ∃ d, t.text = ['\\', d] ∧ escOk d = true
  | .quoted => ∃ body, t.text = '"' :: (body ++ ['"']) ∧ escClean (· == '"') body = true
  | .bracketArg => IsBracket t.text
  | .bracketComment => ∃ b, t.text = '#' :: b ∧ IsBracket b
  | .lineComment =>
      ∃ body eol, t.text = '#' :: (body ++ eol) ∧ body.all notEol = true ∧
        (eol = [] ∨ eol = ['\n'] ∨ eol = ['\r', '\n'] ∨ eol = ['\r']) ∧ opensBracket body = false
  | .newline => t.text ≠ [] ∧ t.text.all (fun c => c == '\r' || c == '\n') = true
  | .space => t.text ≠ [] ∧ t.text.all (fun c => c == ' ' || c == '\t') = true

theorem C06_unqLen_clean (s : Str) : escClean unqStop (s.take (unqLen s)) = true := by
  fun_induction unqLen s with
  | case1 => simp [escClean]
  | case2 => simp [escClean]
  | case3 d rest' hd ih => simp [escClean, hd, ih]
  | case4 d rest' hd => simp [escClean]
  | case5 c rest hc hs => simp [escClean]
  | case6 c rest hc hs ih => rw [escClean.eq_def]; simp [hc, hs, ih]

theorem C06_quotedBody_clean {s : Str} {m : Nat} (h : quotedBody s = some m) :
    ∃ body post, s = body ++ '"' :: post ∧ m = body.length + 1 ∧ escClean (· == '"') body = true := by
  fun_induction quotedBody s generalizing m with
  | case1 => cases h
  | case2 rest => exact ⟨[], rest, rfl, by simpa using h.symm, rfl⟩
  | case3 hq => cases h
  | case4 d rest' hd hq ih =>
    simp only [Option.map_eq_some_iff] at h
    obtain ⟨m', hm', rfl⟩ := h
    obtain ⟨body, post, hs, hm, hc⟩ := ih hm'
    exact ⟨'\\' :: d :: body, post, by simp [hs], by simp [hm], by rw [escClean]; simp [hd, hc]⟩
  | case5 d rest' hd hq => cases h
  | case6 c rest hq hb ih =>
    simp only [Option.map_eq_some_iff] at h
    obtain ⟨m', hm', rfl⟩ := h
    obtain ⟨body, post, hs, hm, hc⟩ := ih hm'
    exact ⟨c :: body, post, by simp [hs], by simp [hm], by rw [escClean.eq_def]; simp [hb, hq, hc]⟩

/-- What `scan` recognises is a prefix of its input of exactly the answered length, and has the shape of
    the rule that was picked. -/
theorem C06_scan_wf {s : Str} {k : TokKind} {n : Nat} (h : scan s = some (k, n)) :
    ∃ tok post, s = tok ++ post ∧ tok.length = n ∧ Tok.WF ⟨k, tok⟩ := by
  obtain ⟨sc, hr, hn⟩ := scan_rule h
  cases k <;> simp only [ruleScore, plainScore_eq_some] at hr <;> try replace hr := hr.1
  case lparen | rparen =>
    rw [head?_beq_eq_isPrefixOf] at hr
    obtain ⟨post, hs, rfl⟩ := prefixRule_split hr
    exact ⟨_, post, hs, rfl, rfl⟩
  case moduleDocstring =>
    obtain ⟨blanks, body, post, hs, hl, hb⟩ := moduleDocstringLen_split hr
    exact ⟨_, post, hs, hl, blanks, body, rfl, hb⟩
  case docstring =>
    obtain ⟨body, post, hs, hl⟩ := docstringLen_split hr
    exact ⟨_, post, hs, hl, body, rfl⟩
  case doccommentStart =>
    obtain ⟨post, hs, rfl⟩ := prefixRule_split hr
    exact ⟨_, post, hs, by rw [docStart_eq]; rfl, rfl⟩
  case blockcommentEnd =>
    obtain ⟨post, hs, rfl⟩ := prefixRule_split hr
    exact ⟨_, post, hs, by rw [docEnd_eq]; rfl, rfl⟩
  case identifier =>
    obtain ⟨c, cs, post, hs, hl, hc, hcs⟩ := identLen_split hr
    refine ⟨_, post, hs, hl, c, cs, rfl, hc, ?_⟩
    simp [identChar_of_identStart hc, hcs]
  case unquoted =>
    obtain ⟨rfl, -⟩ := unquotedLen_eq_some.mp hr
    have hl := List.length_take_of_le (unqLen_le s)
    exact ⟨_, _, (List.take_append_drop (unqLen s) s).symm, hl,
      List.ne_nil_of_length_pos (by rw [hl]; exact Nat.pos_of_ne_zero hn), C06_unqLen_clean s⟩
  case escapeSequence =>
    obtain ⟨d, post, hs, rfl, hd⟩ := escapeLen_split hr
    exact ⟨_, post, hs, rfl, d, rfl, hd⟩
  case quoted =>
    unfold quotedLen at hr
    split at hr
    · rename_i rest
      simp only [Option.map_eq_some_iff] at hr
      obtain ⟨m, hm, rfl⟩ := hr
      obtain ⟨body, post, hs, rfl, hc⟩ := C06_quotedBody_clean hm
      refine ⟨'"' :: (body ++ ['"']), post, by simp [hs], by simp, body, rfl, hc⟩
    · cases hr
  case bracketArg =>
    obtain ⟨m, body, post, hs, hl⟩ := bracketLen_split hr
    exact ⟨_, post, hs, hl, m, body, rfl⟩
  case bracketComment =>
    obtain ⟨m, body, post, hs, hl⟩ := bracketCommentLen_split hr
    exact ⟨_, post, hs, hl, _, rfl, m, body, rfl⟩
  case lineComment =>
    simp only [Option.map_eq_some_iff, Prod.mk.injEq] at hr
    obtain ⟨⟨n', eof⟩, hr, -, rfl⟩ := hr
    obtain ⟨body, eol, post, hs, hl, hb, hob, he⟩ := lineCommentLen_split hr
    exact ⟨_, post, hs, hl, body, eol, rfl, hb, he, hob⟩
  case newline => exact spanRule_split _ hr
  case space => exact spanRule_split _ hr

/-- each rule's match is at least one and at most all remaining characters -/
theorem C06_scan_bounds {s : Str} {k : TokKind} {n : Nat} (h : scan s = some (k, n)) :
    1 ≤ n ∧ n ≤ s.length := by
  obtain ⟨tok, post, rfl, hl, -⟩ := C06_scan_wf h
  obtain ⟨-, -, hn⟩ := scan_rule h
  rw [List.length_append, hl]
  omega

/-- every token of a successful lex has the shape of its grammar rule: strings and brackets are terminated,
    escapes are valid, no token hides a stop character -/
theorem C06_tok_wf {s : Str} {ts : List Tok} (h : lexAll s = .ok ts) : ∀ t ∈ ts, t.WF :=
  (lexAll_eq_ok_iff.mp h).forall fun s k n hsc => by
    obtain ⟨tok, post, hs, hl, hwf⟩ := C06_scan_wf hsc
    rw [hs, List.take_left' hl]
    exact hwf

/-! ## Scanner: the fault classes -/

/-- Unless what follows the quote is a body of valid escapes and other characters, ended by an unescaped quote, no
    rule matches at the opening quote (unterminated string — also when only escaped quotes follow — or invalid
    escape inside the string). -/
theorem C06_quote_fault {rest : Str}
    (h : ¬ ∃ body post, rest = body ++ '"' :: post ∧ escClean (· == '"') body = true) :
    scan ('"' :: rest) = none := by
  apply scan_quote_none
  cases hq : quotedBody rest with
  | none => rfl
  | some m =>
    obtain ⟨body, post, hs, -, hc⟩ := C06_quotedBody_clean hq
    exact absurd ⟨body, post, hs, hc⟩ h

/-- a double quote that is never closed: no rule matches at the quote -/
theorem C06_unterminated_quote {rest : Str} (h : '"' ∉ rest) : scan ('"' :: rest) = none :=
  C06_quote_fault fun ⟨body, post, hs, _⟩ => h (hs ▸ by simp)

theorem C06_quotedBody_bad_escape {pre : Str} {d : Char} {rest : Str}
    (hpre : escClean (· == '"') pre = true) (hd : escOk d = false) :
    quotedBody (pre ++ '\\' :: d :: rest) = none := by
  fun_induction escClean (· == '"') pre with
  | case1 => rw [List.nil_append, quotedBody.eq_def]; simp [hd]
  | case2 => cases hpre
  | case3 e rest' ih =>
    simp only [Bool.and_eq_true] at hpre
    rw [List.cons_append, List.cons_append, quotedBody.eq_def]
    simp [hpre.1, ih hpre.2]
  | case4 c rest' hc ih =>
    simp only [Bool.and_eq_true, Bool.not_eq_true', beq_eq_false_iff_ne] at hpre
    rw [List.cons_append, quotedBody.eq_def]
    simp [hc, hpre.1, ih hpre.2]

/-- an invalid escape sequence inside a quoted argument: no rule matches at the opening quote -/
theorem C06_bad_escape_in_quoted {pre : Str} {d : Char} {rest : Str}
    (hpre : escClean (· == '"') pre = true) (hd : escOk d = false) :
    scan ('"' :: (pre ++ '\\' :: d :: rest)) = none :=
  scan_quote_none (C06_quotedBody_bad_escape hpre hd)

/-- a backslash before a character that does not form an escape sequence (an alphanumeric other than `t`,
    `r`, `n`): no rule matches at the backslash -/
theorem C06_bad_escape {d : Char} {rest : Str} (hd : escOk d = false) : scan ('\\' :: d :: rest) = none :=
  scan_none_of_starts fun k hk => by
    rcases starts_backslash hk with rfl | rfl <;>
      simp [ruleScore, plainScore, unquotedLen, unqLen_backslash, escapeLen, hd]

/-- `C06_bad_escape` needs a character after the backslash; a backslash that ends the file is a fault as well -/
theorem C06_backslash_eof : scan ['\\'] = none :=
  scan_none_of_starts fun k hk => by rcases starts_backslash hk with rfl | rfl <;> rfl

/-- At `#[`, where the text after `#` opens a bracket that never closes and no doccomment ends, no rule but
    `Doccomment_start` answers. -/
theorem hash_rules_unclosed {y : Str} (hob : opensBracket ('[' :: y) = true) (hb : bracketLen ('[' :: y) = none)
    (hd : docstringLen ('#' :: '[' :: y) = none) {k : TokKind} (hst : k.starts '#' = true)
    (hk : k ≠ .doccommentStart) : ruleScore k ('#' :: '[' :: y) = none := by
  rcases starts_hash hst with rfl | rfl | rfl | rfl | rfl | rfl
  · simp [ruleScore, plainScore, moduleDocstringLen_eq, hd]
  · simp [ruleScore, plainScore, hd]
  · exact absurd rfl hk
  · simp [ruleScore, plainScore, blockcommentEndLen, docEnd_eq, List.isPrefixOf]
  · simp [ruleScore, plainScore, bracketCommentLen, hb]
  · simp [ruleScore, lineCommentLen, hob]

/-- `#[`, n × `=`, `[` whose closing `]`, n × `=`, `]` never comes, and which is not `#[[[`:
    no rule matches at the `#` (in particular it is not taken for a line comment). -/
theorem C06_unterminated_bracket_comment {n : Nat} {rest : Str}
    (h : findAfter (']' :: (List.replicate n '=' ++ [']'])) rest = none)
    (hdoc : ¬ (n = 0 ∧ rest.head? = some '[')) :
    scan ('#' :: '[' :: (List.replicate n '=' ++ '[' :: rest)) = none := by
  have hds : docStart.isPrefixOf ('#' :: '[' :: (List.replicate n '=' ++ '[' :: rest)) = false := by
    rw [docStart_isPrefixOf_open]
    simpa using hdoc
  refine scan_none_of_starts fun k hst => ?_
  by_cases hk : k = .doccommentStart
  · simp [hk, ruleScore, plainScore, doccommentStartLen, hds]
  · exact hash_rules_unclosed (opensBracket_open n rest) (by simp [bracketLen_open, bracketClose, h])
      (doc_none_of_not_prefix _ hds).1 hst hk

/-- The remaining case `#[[[` with no `]]` after it (hence no `#]]` either): the scanner produces a
    `Doccomment_start` token, which the parser rejects in every state (`C06_parse_rejects_kind`). -/
theorem C06_unterminated_bracket_comment_doc {rest : Str}
    (h : findAfter [']', ']'] ('[' :: rest) = none) :
    scan ('#' :: '[' :: '[' :: '[' :: rest) = some (.doccommentStart, 4) := by
  have hde : findAfter docEnd rest = none := by
    rw [docEnd_eq]
    exact findAfter_none_mono (List.suffix_cons '#' _).isInfix (List.suffix_cons '[' rest).isInfix h
  have hb : bracketLen ('[' :: '[' :: '[' :: rest) = none := by
    simpa [bracketClose, h] using bracketLen_open 0 ('[' :: rest)
  refine scan_of_unique (k := .doccommentStart) (sc := 8)
    (by simp [ruleScore, plainScore, doccommentStartLen, docStart_eq]) (by decide) fun k hk hst => ?_
  exact hash_rules_unclosed (opensBracket_open 0 ('[' :: rest)) hb
    (doc_none_of_findAfter ('#' :: '[' :: '[' :: '[' :: rest) hde).1 hst hk

/-! ## Scanner: the loop stops at the first fault it gets to -/

/-- where no rule matches, the loop stops with an error at exactly that index -/
theorem C06_scan_none_lexLoop {s : Str} (fuel pos : Nat) (hne : s ≠ []) (hf : scan s = none) :
    lexLoop (fuel + 1) pos s = .error pos := by
  rw [lexLoop_succ _ _ _ hne, hf]

theorem C06_lexLoop_fault {s suf : Str} (hr : Reaches s suf) (hne : suf ≠ []) (hf : scan suf = none) :
    ∀ fuel pos, s.length ≤ fuel → lexLoop fuel pos s = .error (pos + (s.length - suf.length)) := by
  intro fuel pos hfuel
  obtain ⟨p, hp, hpos⟩ := hr.lexLoop hne hf fuel pos hfuel
  have := hr.length_le
  rw [hp]
  congr 1
  omega

/-- If the scanner, started at the beginning of the file, arrives at a point where no rule matches, the
    lexer fails with the index of that point: nothing is skipped to resynchronise. -/
theorem C06_fault_at_reached {s suf : Str} (hr : Reaches s suf) (hne : suf ≠ []) (hf : scan suf = none) :
    lexAll s = .error (s.length - suf.length) := by
  simpa [lexAll] using C06_lexLoop_fault hr hne hf s.length 0 (Nat.le_refl _)

theorem C06_lexLoop_error {fuel pos p : Nat} {s : Str} (hfuel : s.length ≤ fuel)
    (h : lexLoop fuel pos s = .error p) :
    ∃ suf, Reaches s suf ∧ suf ≠ [] ∧ scan suf = none ∧ p + suf.length = pos + s.length :=
  (lexLoop_spec hfuel).2 p h

/-- Conversely the lexer fails only for that reason (the fuel of `lexAll` never runs out), and the reported
    index is the point where no rule matches. -/
theorem C06_lex_error_is_fault {s : Str} {p : Nat} (h : lexAll s = .error p) :
    ∃ suf, Reaches s suf ∧ suf ≠ [] ∧ scan suf = none ∧ p + suf.length = s.length := by
  simpa using C06_lexLoop_error (Nat.le_refl _) h

/-! ## Parser: what is rejected -/

/-- an extra `)`: if some prefix of the significant tokens has more `)` than `(`, parsing fails -/
theorem C06_parse_extra_rparen (ts : List Tok) (i : Nat)
    (h : (ts.take i).countP (·.kind == .lparen) < (ts.take i).countP (·.kind == .rparen)) :
    parseFold {} ts = none ∧ parse ts = none := by
  have : parseFold {} ts = none := parseFold_extra_rparen {} ts i (by simpa [PMode.depth] using h)
  exact ⟨this, parse_none_of_fold_none this⟩

/-- a missing `)` (or `(`): an accepted token list has as many `(` as `)` -/
theorem C06_parse_missing_rparen {ts : List Tok} {evs : List Event} (h : parse ts = some evs) :
    ts.countP (·.kind == .lparen) = ts.countP (·.kind == .rparen) := by
  obtain ⟨p, ev, a, hf, -⟩ := parse_some h
  have := parseFold_depth hf
  simpa [PMode.depth] using this.symm

/-- the parentheses of an accepted token list are balanced (`C06_parse_missing_rparen` and `C06_parse_extra_rparen`) -/
theorem C06_parse_balanced {ts : List Tok} {evs : List Event} (h : parse ts = some evs) :
    ts.countP (·.kind == .lparen) = ts.countP (·.kind == .rparen) ∧
    ∀ i, (ts.take i).countP (·.kind == .rparen) ≤ (ts.take i).countP (·.kind == .lparen) := by
  refine ⟨C06_parse_missing_rparen h, fun i => ?_⟩
  apply Nat.le_of_not_lt
  intro hlt
  rw [(C06_parse_extra_rparen ts i hlt).2] at h
  cases h

/-- between commands only a doc-comment or an `Identifier` may start something -/
theorem C06_parse_top_rejects (p : Option Str) (events : List Event) (atStart : Bool) (t : Tok)
    (h1 : t.kind ≠ .identifier) (h2 : t.kind ≠ .docstring) (h3 : t.kind ≠ .moduleDocstring) :
    parseStep { mode := .top p, events := events, atStart := atStart } t = none :=
  parseStep_eq_none fun _ h => by
    cases h with
    | moduleDoc hk => exact h3 hk
    | doc hk => exact h2 hk
    | name hk => exact h1 hk

/-- after an `Identifier` only `(` may follow -/
theorem C06_parse_afterIdent_rejects (p : Option Str) (name : Str) (events : List Event) (atStart : Bool)
    (t : Tok) (h : t.kind ≠ .lparen) :
    parseStep { mode := .afterIdent p name, events := events, atStart := atStart } t = none :=
  parseStep_eq_none fun _ h' => by
    cases h' with
    | lparen hk => exact h hk

/-- A bare word between commands: if the parser is between commands after `pre`, then an argument-kind token
    (`Identifier`, unquoted, quoted or bracket argument) that is not followed by `(` — in particular one at the
    end of the input — makes parsing fail, whatever comes after. -/
theorem C06_parse_bare_word {pre rest : List Tok} {w : Tok} {st : PState} {p : Option Str}
    (hpre : parseFold {} pre = some st) (hmode : st.mode = .top p) (hw : w.kind.isArg = true)
    (hnext : ∀ r, rest.head? = some r → r.kind ≠ .lparen) :
    parse (pre ++ w :: rest) = none := by
  obtain ⟨mode, events, atStart⟩ := st
  simp only at hmode
  subst hmode
  by_cases hid : w.kind = .identifier
  · have hfold : parseFold {} (pre ++ [w]) =
        some { mode := .afterIdent p w.text, events := events, atStart := false } := by
      rw [parseFold_append, hpre]
      simp [parseFold, parseStep_iff.mpr (.name hid)]
    cases rest with
    | nil => exact parse_none_of_mode hfold (fun q => by simp)
    | cons r rs =>
      rw [show pre ++ w :: r :: rs = (pre ++ [w]) ++ r :: rs by simp]
      exact parse_none_of_step_none hfold (C06_parse_afterIdent_rejects _ _ _ _ r (hnext r rfl))
  · refine parse_none_of_step_none hpre ?_
    apply C06_parse_top_rejects _ _ _ _ hid <;> intro hk <;> simp [hk, TokKind.isArg] at hw

/-- tokens that belong to no parser rule (`Doccomment_start`, `Blockcomment_end`, a lone `Escape_sequence`)
    are rejected in every state -/
theorem C06_parse_rejects_kind (st : PState) (t : Tok)
    (h : t.kind = .doccommentStart ∨ t.kind = .blockcommentEnd ∨ t.kind = .escapeSequence) :
    parseStep st t = none :=
  parseStep_eq_none fun _ h' => by
    have hna : t.kind.isArg = false := by rcases h with h | h | h <;> rw [h] <;> rfl
    cases h' with
    | arg hk =>
      rw [hk] at hna
      cases hna
    | moduleDoc hk | doc hk | name hk | lparen hk | push hk | close hk | pop hk =>
      rw [hk] at h
      simp at h

theorem C06_parse_stray_token {ts : List Tok} {t : Tok} (ht : t ∈ ts)
    (h : t.kind = .doccommentStart ∨ t.kind = .blockcommentEnd ∨ t.kind = .escapeSequence) :
    parse ts = none := by
  obtain ⟨a, b, rfl⟩ := List.append_of_mem ht
  cases hpre : parseFold {} a with
  | none => exact parse_none_of_fold_none (by rw [parseFold_append, hpre]; rfl)
  | some st => exact parse_none_of_step_none hpre (C06_parse_rejects_kind st t h)

/-! ## Parser: what is accepted — the events are a reading of *all* significant tokens, in order -/

/-- what the parser distinguishes in a token -/
inductive Leaf where
  | lp | rp
  | word (text : Str)     -- `Identifier`, unquoted, quoted or bracket argument
  | doc (text : Str)      -- `Docstring`
  | mdoc (text : Str)     -- `Module_docstring`
deriving Repr, DecidableEq

def Tok.leaf (t : Tok) : Option Leaf :=
  match t.kind with
  | .lparen => some .lp
  | .rparen => some .rp
  | .identifier | .unquoted | .quoted | .bracketArg => some (.word t.text)
  | .docstring => some (.doc t.text)
  | .moduleDocstring => some (.mdoc t.text)
  | _ => none

mutual
/-- the tokens an argument was built from -/
def Arg.leaves : Arg → List Leaf
  | .single t => [.word t]
  | .compound as => .lp :: (argsLeaves as ++ [.rp])
def argsLeaves : List Arg → List Leaf
  | [] => []
  | a :: as => a.leaves ++ argsLeaves as
end

/-- `name ( args )` -/
def Cmd.leaves (c : Cmd) : List Leaf := .word c.name :: .lp :: (argsLeaves c.args ++ [.rp])

/-- the tokens an event was built from; the text of a dangling doc-comment is not kept in the event -/
def EventLeaves : Event → List Leaf → Prop
  | .moduleDoc t, ls => ls = [.mdoc t]
  | .docCmd d c, ls => ls = .doc d :: c.leaves
  | .cmd c, ls => ls = c.leaves
  | .dangling, ls => ∃ d, ls = [.doc d]

def EventsLeaves : List Event → List Leaf → Prop
  | [], ls => ls = []
  | e :: es, ls => ∃ l₁ l₂, ls = l₁ ++ l₂ ∧ EventLeaves e l₁ ∧ EventsLeaves es l₂

def pendLeaves : Option Str → List Leaf
  | none => []
  | some d => [.doc d]

/-- open groups, innermost first: each was left by a `(` -/
def stackLeaves : List (List Arg) → List Leaf
  | [] => []
  | fr :: st => stackLeaves st ++ argsLeaves fr.reverse ++ [.lp]

/-- the tokens of the unfinished element -/
def PMode.leaves : PMode → List Leaf
  | .top p => pendLeaves p
  | .afterIdent p name => pendLeaves p ++ [.word name]
  | .inArgs p name stack cur => pendLeaves p ++ [.word name, .lp] ++ stackLeaves stack ++ argsLeaves cur.reverse

/-- `st.Consumed ls`: the state `st` is a reading of exactly the tokens `ls`; and as long as nothing but filler was read
    (`atStart`) the state is the initial one, which is what the `moduleDoc` step needs -/
def PState.Consumed (st : PState) (ls : List Leaf) : Prop :=
  (∃ le, EventsLeaves st.events.reverse le ∧ ls = le ++ st.mode.leaves) ∧
  (st.atStart = true → st.events = [] ∧ st.mode = .top none)

theorem argsLeaves_append (a b : List Arg) : argsLeaves (a ++ b) = argsLeaves a ++ argsLeaves b := by
  induction a with
  | nil => simp [argsLeaves]
  | cons x a ih => simp [argsLeaves, ih]

theorem EventsLeaves_snoc {es : List Event} {e : Event} {l l' : List Leaf}
    (h : EventsLeaves es l) (he : EventLeaves e l') : EventsLeaves (es ++ [e]) (l ++ l') := by
  induction es generalizing l with
  | nil =>
    simp only [EventsLeaves] at h; subst h
    exact ⟨l', [], by simp, he, rfl⟩
  | cons x es ih =>
    obtain ⟨l₁, l₂, rfl, hx, hes⟩ := h
    exact ⟨l₁, l₂ ++ l', by simp, hx, ih hes⟩

theorem EventsLeaves_flush {events : List Event} {le : List Leaf} (p : Option Str)
    (hle : EventsLeaves events.reverse le) : EventsLeaves (flushEvents p events).reverse (le ++ pendLeaves p) := by
  cases p with
  | none => simpa [flushEvents, pendLeaves] using hle
  | some d =>
    simp only [flushEvents, List.reverse_cons]
    exact EventsLeaves_snoc hle ⟨d, rfl⟩

theorem EventLeaves_emitCmd (p : Option Str) (c : Cmd) : EventLeaves (emitCmd p c) (pendLeaves p ++ c.leaves) := by
  cases p <;> simp [emitCmd, EventLeaves, pendLeaves]

theorem Tok.leaf_of_isArg {t : Tok} (h : t.kind.isArg = true) : t.leaf = some (.word t.text) := by
  obtain ⟨kind, text⟩ := t
  cases kind <;> first | rfl | cases h

/-- one parser step consumes exactly one token and stays a reading of everything consumed -/
theorem C06_parseStep_exact {st st' : PState} {t : Tok} {ls : List Leaf}
    (hinv : st.Consumed ls) (h : parseStep st t = some st') :
    ∃ l, t.leaf = some l ∧ st'.Consumed (ls ++ [l]) := by
  obtain ⟨⟨le, hle, rfl⟩, hstart⟩ := hinv
  cases parseStep_iff.mp h with
  | moduleDoc hk =>
    -- only as the very first token
    obtain ⟨rfl, hm⟩ := hstart rfl
    cases hm
    simp only [List.reverse_nil, EventsLeaves] at hle
    subst hle
    exact ⟨.mdoc t.text, by simp [Tok.leaf, hk],
      ⟨[.mdoc t.text], ⟨_, _, rfl, rfl, rfl⟩, by simp [PMode.leaves, pendLeaves]⟩, by simp⟩
  | @doc _ p _ _ hk =>
    exact ⟨.doc t.text, by simp [Tok.leaf, hk],
      ⟨le ++ pendLeaves p, EventsLeaves_flush p hle, by simp [PMode.leaves, pendLeaves]⟩, by simp⟩
  | name hk => exact ⟨.word t.text, by simp [Tok.leaf, hk], ⟨le, hle, by simp [PMode.leaves]⟩, by simp⟩
  | lparen hk =>
    exact ⟨.lp, by simp [Tok.leaf, hk], ⟨le, hle, by simp [PMode.leaves, stackLeaves, argsLeaves]⟩,
      fun ha => absurd (hstart ha).2 (by simp)⟩
  | arg hk =>
    exact ⟨.word t.text, Tok.leaf_of_isArg hk,
      ⟨le, hle, by simp [PMode.leaves, argsLeaves_append, argsLeaves, Arg.leaves]⟩,
      fun ha => absurd (hstart ha).2 (by simp)⟩
  | push hk =>
    exact ⟨.lp, by simp [Tok.leaf, hk], ⟨le, hle, by simp [PMode.leaves, stackLeaves, argsLeaves]⟩,
      fun ha => absurd (hstart ha).2 (by simp)⟩
  | @close _ p name cur _ _ hk =>
    refine ⟨.rp, by simp [Tok.leaf, hk], ⟨le ++ (pendLeaves p ++ Cmd.leaves ⟨name, cur.reverse⟩), ?_, ?_⟩,
      fun ha => absurd (hstart ha).2 (by simp)⟩
    · simp only [List.reverse_cons]
      exact EventsLeaves_snoc hle (EventLeaves_emitCmd p _)
    · simp [PMode.leaves, stackLeaves, Cmd.leaves, pendLeaves]
  | pop hk =>
    refine ⟨.rp, by simp [Tok.leaf, hk], ⟨le, hle, ?_⟩, fun ha => absurd (hstart ha).2 (by simp)⟩
    simp [PMode.leaves, stackLeaves, argsLeaves_append, argsLeaves, Arg.leaves]

theorem C06_parseFold_exact {st st' : PState} {ts : List Tok} {ls : List Leaf}
    (hinv : st.Consumed ls) (h : parseFold st ts = some st') :
    ∃ ls', ts.map Tok.leaf = ls'.map some ∧ st'.Consumed (ls ++ ls') := by
  induction ts generalizing st ls with
  | nil =>
    simp only [parseFold, Option.some.injEq] at h; subst h
    exact ⟨[], rfl, by simpa using hinv⟩
  | cons t ts ih =>
    simp only [parseFold, Option.bind_eq_some_iff] at h
    obtain ⟨st₁, hs, h⟩ := h
    obtain ⟨l, hl, hinv₁⟩ := C06_parseStep_exact hinv hs
    obtain ⟨ls', hls', hinv'⟩ := ih hinv₁ h
    exact ⟨l :: ls', by simp [hl, hls'], by simpa using hinv'⟩

/-- If the parser accepts, its events, read back as tokens, are exactly the significant tokens: every token
    went into exactly one event, in order; nothing was dropped, inserted or reordered.  (Kinds of argument
    tokens are not kept in the events, and neither is the text of a dangling doc-comment.) -/
theorem C06_parse_exact {ts : List Tok} {evs : List Event} (h : parse ts = some evs) :
    ∃ ls, EventsLeaves evs ls ∧ ts.map Tok.leaf = ls.map some := by
  obtain ⟨p, events, a, hf, rfl⟩ := parse_some h
  have h0 : PState.Consumed {} [] := ⟨⟨[], rfl, rfl⟩, fun _ => ⟨rfl, rfl⟩⟩
  obtain ⟨ls, hls, ⟨le, hle, hl⟩, -⟩ := C06_parseFold_exact h0 hf
  simp only [List.nil_append] at hl
  subst hl
  exact ⟨le ++ pendLeaves p, EventsLeaves_flush p hle, hls⟩

/-! ## Pipeline -/

/-- output exists only if the whole file was lexed and the whole significant token stream was parsed -/
theorem C06_no_skip {cfg : Cfg} {headers : List Str} {title modName src out : Str}
    (h : pipeline cfg headers title modName src = .ok out) :
    ∃ ts evs st hc, headers.head? = some hc ∧ lexAll (dropBom src) = .ok ts ∧
      parse (significant ts) = some evs ∧ aggregate cfg evs = .ok st ∧
      out = (processDocs hc title modName st.documented).render := by
  cases headers with
  | nil => cases h
  | cons hc hs =>
    simp only [pipeline, documentedOf] at h
    cases hl : lexAll (dropBom src) with
    | error p => simp [hl] at h
    | ok ts =>
      cases hp : parse (significant ts) with
      | none => simp [hl, hp] at h
      | some evs =>
        cases ha : aggregate cfg evs with
        | error e => simp [hl, hp, ha] at h
        | ok st =>
          simp only [hl, hp, ha, Except.ok.injEq] at h
          exact ⟨ts, evs, st, hc, rfl, rfl, hp, ha, h.symm⟩

/-- a token recognition error is reported as such, with its position, and there is no output -/
theorem C06_error_propagates_lex {cfg : Cfg} {headers : List Str} {title modName src : Str} {p : Nat}
    (hh : headers ≠ []) (h : lexAll (dropBom src) = .error p) :
    pipeline cfg headers title modName src = .error (.lex p) := by
  cases headers with
  | nil => exact absurd rfl hh
  | cons hc hs => simp [pipeline, documentedOf, h]

/-- a syntax error is reported as such, and there is no output -/
theorem C06_error_propagates_parse {cfg : Cfg} {headers : List Str} {title modName src : Str}
    {ts : List Tok} (hh : headers ≠ []) (hl : lexAll (dropBom src) = .ok ts)
    (hp : parse (significant ts) = none) :
    pipeline cfg headers title modName src = .error .parse := by
  cases headers with
  | nil => exact absurd rfl hh
  | cons hc hs => simp [pipeline, documentedOf, hl, hp]

theorem C06_error_propagates {cfg : Cfg} {headers : List Str} {title modName src : Str} (hh : headers ≠ []) :
    (∀ p, lexAll (dropBom src) = .error p → pipeline cfg headers title modName src = .error (.lex p)) ∧
    (∀ ts, lexAll (dropBom src) = .ok ts → parse (significant ts) = none →
      pipeline cfg headers title modName src = .error .parse) :=
  ⟨fun _ h => C06_error_propagates_lex hh h, fun _ hl hp => C06_error_propagates_parse hh hl hp⟩

/-- never any output: the pipeline result is an error in both cases, also with an empty header list -/
theorem C06_no_output_on_error {cfg : Cfg} {headers : List Str} {title modName src : Str}
    (h : (∃ p, lexAll (dropBom src) = .error p) ∨
         (∃ ts, lexAll (dropBom src) = .ok ts ∧ parse (significant ts) = none)) :
    ∀ out, pipeline cfg headers title modName src ≠ .ok out := by
  intro out ho
  obtain ⟨ts, evs, st, hc, -, hl, hp, -, -⟩ := C06_no_skip ho
  rcases h with ⟨p, h⟩ | ⟨ts', hl', hp'⟩
  · cases hl.symm.trans h
  · cases hl.symm.trans hl'
    cases hp.symm.trans hp'

/-- A lexical fault anywhere the scanner gets to is fatal for the whole file, with the index of the fault. -/
theorem C06_fault_fatal {cfg : Cfg} {headers : List Str} {title modName src suf : Str} (hh : headers ≠ [])
    (hr : Reaches (dropBom src) suf) (hne : suf ≠ []) (hf : scan suf = none) :
    pipeline cfg headers title modName src = .error (.lex ((dropBom src).length - suf.length)) :=
  C06_error_propagates_lex hh (C06_fault_at_reached hr hne hf)

/-- Whenever there is output, every character of the (BOM-less) source lies in exactly one well-formed token,
    the tokens hidden from the parser are comments and white space only, and every other token went into
    exactly one parser event, in order. -/
theorem C06_output_accounts_for_source {cfg : Cfg} {headers : List Str} {title modName src out : Str}
    (h : pipeline cfg headers title modName src = .ok out) :
    ∃ ts evs ls,
      lexAll (dropBom src) = .ok ts ∧ (ts.map Tok.text).flatten = dropBom src ∧
      (∀ t ∈ ts, t.WF ∧ t.text ≠ []) ∧
      (∀ t ∈ ts, t ∉ significant ts →
        t.kind = .bracketComment ∨ t.kind = .lineComment ∨ t.kind = .newline ∨ t.kind = .space) ∧
      parse (significant ts) = some evs ∧ EventsLeaves evs ls ∧
      (significant ts).map Tok.leaf = ls.map some := by
  obtain ⟨ts, evs, st, hc, -, hl, hp, -, -⟩ := C06_no_skip h
  obtain ⟨ls, hev, hls⟩ := C06_parse_exact hp
  refine ⟨ts, evs, ls, hl, C06_lex_lossless hl, fun t ht => ⟨C06_tok_wf hl t ht, C06_lex_nonempty hl t ht⟩,
    ?_, hp, hev, hls⟩
  intro t ht hns
  have : t.kind.skipped = true := by simpa [significant, ht] using hns
  cases hk : t.kind <;> simp [hk, TokKind.skipped] at this ⊢

/-! ## non-vacuity: the definitions and theorems on concrete inputs

String literals are first turned into character lists by `String.toList_ofList` and `lit_ofList`, one rewrite per literal
(the list is found by unification, nothing is decoded); what is not an instance of a theorem above is then computed by
the kernel. -/

/-- `set(x a\bc)`: the scanner gets to the bad escape after the tokens `set`, `(`, `x`, ` `, `a` -/
theorem exBadEscape_reaches :
    Reaches ['s', 'e', 't', '(', 'x', ' ', 'a', '\\', 'b', 'c', ')'] ['\\', 'b', 'c', ')'] :=
  .step (k := .identifier) (n := 3) (by decide +kernel) <| .step (k := .lparen) (n := 1) (by decide +kernel) <|
    .step (k := .identifier) (n := 1) (by decide +kernel) <| .step (k := .space) (n := 1) (by decide +kernel) <|
    .step (k := .identifier) (n := 1) (by decide +kernel) <| .here _

example : Tok.WF ⟨.quoted, "\"a\\\"b\"".toList⟩ := by
  rw [String.toList_ofList]
  exact ⟨['a', '\\', '"', 'b'], rfl, by decide +kernel⟩
example : ¬ Tok.WF ⟨.quoted, ['"', 'a', '\\', '"']⟩ := by
  rintro ⟨body, h, hc⟩
  have : body = ['a', '\\'] := by
    have h' : ['a', '\\'] ++ ['"'] = body ++ ['"'] := by simpa using h
    exact (List.append_cancel_right h').symm
  subst this; simp [escClean] at hc
example : ¬ Tok.WF ⟨.unquoted, ['a', '\\']⟩ := by simp [Tok.WF, escClean, unqStop]
example : ¬ Tok.WF ⟨.unquoted, ['a', '\\', 'b']⟩ := by simp [Tok.WF, escClean, unqStop, escOk, asciiAlnum, asciiAlpha]
example : ¬ Tok.WF ⟨.unquoted, ['a', ')']⟩ := by simp [Tok.WF, escClean, unqStop]
example : Tok.WF ⟨.unquoted, ['a', '\\', ')']⟩ := by simp [Tok.WF, escClean, unqStop, escOk, asciiAlnum, asciiAlpha, asciiDigit]

example : (lexAll "set(x \"a\\\"b\") # c\n".toList).toBool = true := by
  rw [String.toList_ofList]
  decide +kernel
example : lexAll "set(x a\\bc)".toList = .error 7 := by
  rw [String.toList_ofList]
  exact C06_fault_at_reached exBadEscape_reaches nofun (C06_bad_escape rfl)
example : lexAll "set(x \"ab".toList = .error 6 := by
  rw [String.toList_ofList]
  decide +kernel
example : lexAll "set(x) #[[ never closed".toList = .error 7 := by
  rw [String.toList_ofList]
  decide +kernel
example : (lexAll "set(x) # [[ just a line comment".toList).toBool = true := by
  rw [String.toList_ofList]
  decide +kernel

example : scan ('"' :: "abc)\n".toList) = none := by
  rw [String.toList_ofList]
  exact C06_unterminated_quote (by decide)
example : scan ('\\' :: 'b' :: "c)".toList) = none := C06_bad_escape rfl
example : scan ('"' :: ("a\\n".toList ++ '\\' :: 'b' :: "c\")".toList)) = none := by
  rw [String.toList_ofList]
  exact C06_bad_escape_in_quoted (by decide +kernel) rfl
example : scan ('#' :: '[' :: (List.replicate 1 '=' ++ '[' :: " abc ]] x\n".toList)) = none := by
  rw [String.toList_ofList]
  exact C06_unterminated_bracket_comment (by decide +kernel) (by simp)
example : scan ('#' :: '[' :: (List.replicate 0 '=' ++ '[' :: " abc ] x\n".toList)) = none := by
  rw [String.toList_ofList]
  exact C06_unterminated_bracket_comment (by decide +kernel) (by simp)
example : scan ('#' :: '[' :: '[' :: '[' :: " abc ] x\n".toList) = some (.doccommentStart, 4) := by
  rw [String.toList_ofList]
  exact C06_unterminated_bracket_comment_doc (by decide +kernel)

example : Reaches "set(x a\\bc)".toList "\\bc)".toList := by
  rw [String.toList_ofList, String.toList_ofList]
  exact exBadEscape_reaches

/-- `f(a)` -/
private def exCall : List Tok :=
  [⟨.identifier, ['f']⟩, ⟨.lparen, ['(']⟩, ⟨.unquoted, ['a']⟩, ⟨.rparen, [')']⟩]

example : (parse exCall).isSome = true := by rfl
example : parse (exCall ++ [⟨.rparen, [')']⟩]) = none := (C06_parse_extra_rparen _ 5 (by decide)).2
example : parse (exCall ++ ⟨.unquoted, ['x']⟩ :: exCall) = none :=
  C06_parse_bare_word (pre := exCall) (p := none) rfl rfl rfl (by simp [exCall])
example : parse (exCall ++ [⟨.identifier, ['x']⟩]) = none :=
  C06_parse_bare_word (pre := exCall) (p := none) (rest := []) rfl rfl rfl (by simp)
example : parse [⟨.identifier, ['f']⟩, ⟨.lparen, ['(']⟩, ⟨.unquoted, ['a']⟩] = none := by rfl
example : parse (exCall ++ [⟨.doccommentStart, ['#', '[', '[', '[']⟩]) = none :=
  C06_parse_stray_token (t := ⟨.doccommentStart, ['#', '[', '[', '[']⟩) (by simp) (Or.inl rfl)

example : pipeline {} [lit "#"] (lit "t") (lit "m") "set(x a\\bc)".toList = .error (.lex 7) := by
  rw [String.toList_ofList]
  exact C06_error_propagates_lex (by simp) (C06_fault_at_reached exBadEscape_reaches nofun (C06_bad_escape rfl))
example : pipeline {} [lit "#"] (lit "t") (lit "m") "set(x \"ab)\n".toList = .error (.lex 6) := by
  repeat rw [lit_ofList]
  rw [String.toList_ofList]
  decide +kernel
example : pipeline {} [lit "#"] (lit "t") (lit "m") "set(x))\n".toList = .error .parse := by
  repeat rw [lit_ofList]
  rw [String.toList_ofList]
  decide +kernel
example : pipeline {} [lit "#"] (lit "t") (lit "m") "set(x\n".toList = .error .parse := by
  repeat rw [lit_ofList]
  rw [String.toList_ofList]
  decide +kernel
example : pipeline {} [lit "#"] (lit "t") (lit "m") "set(x)\nstray\nset(y)\n".toList = .error .parse := by
  repeat rw [lit_ofList]
  rw [String.toList_ofList]
  decide +kernel
example : pipeline {} [lit "#"] (lit "t") (lit "m") "set(x)\n#[[[ never closed\n".toList = .error .parse := by
  repeat rw [lit_ofList]
  rw [String.toList_ofList]
  decide +kernel
example : (pipeline {} [lit "#"] (lit "t") (lit "m")
    "#[[[\n# doc\n#]]\nfunction(f a)\nendfunction()\n".toList).toBool = true := by
  repeat rw [lit_ofList]
  rw [String.toList_ofList]
  decide +kernel

end Cminx
