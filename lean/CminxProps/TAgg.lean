import CminxProps.TAggSeq
/-!
# T-agg — the flat listener state machine computes the structural specification

`aggregate` (`CminxModel/Agg.lean`, the model of `DocumentationAggregator`) run over the event list of a
well-formed nested module (`Source.lean: Module.events`) ends without an exception, with empty stacks, nothing
awaiting a definition, no logged parameter errors, and with `documented` equal to the list read off the nested
module by structural recursion (`Spec.lean: Module.entries`).

The hypothesis `hk1` keeps the theorem outside defect K1 (a *documented* `cpp_class` with
`include_undocumented_cpp_class = false` pushes the class stack twice); `T_agg_K1_counterexample` shows the
hypothesis cannot be dropped.

`T_agg` is `T_aggS` (`CminxProps/TAggSeq.lean`) on the modules in which every declaration is at once followed by
its undocumented definition: `itemsWf` implies `itemsWfS`, and on such modules the two specifications agree.
-/
namespace Cminx

/-- the refinement statement of `T_agg` for one item, from every state between two items -/
def ItemOK (cfg : Cfg) (it : Item) : Prop :=
  ∀ (inClass : Bool) (st : AggState), Inv st → it.wf inClass = true →
    (inClass = true → st.classStack ≠ []) →
    (cfg.inclCppClass = true ∨ it.hasDocumentedClass = false) →
    it.events.foldlM (step cfg) st =
      .ok (post st it.cpaDirect (it.spec cfg (ctxOf st.classStack)))

/-- an item is a list of one item -/
theorem itemOK_all (cfg : Cfg) : (it : Item) → ItemOK cfg it := by
  intro it inClass st hinv hwf hcls hk
  have hwf1 : itemsWf inClass [it] = true := by simp [itemsWf, hwf]
  have h := T_aggS_frame cfg [it] inClass false st hinv (itemsWf_imp_itemsWfS _ _ hwf1) hcls
    (by simpa [itemsHaveDocumentedClass] using hk)
  rw [itemsSpecS_eq_of_wf cfg _ inClass _ hwf1] at h
  simpa [itemsEvents, itemsCpaDirect, itemsSpec] using h

theorem T_agg_items (cfg : Cfg) (items : List Item)
    (hwf : itemsWf false items = true)
    (hk1 : cfg.inclCppClass = true ∨ itemsHaveDocumentedClass items = false) :
    (itemsEvents items).foldlM (step cfg) ({} : AggState) =
      .ok { documented := (itemsSpec cfg .none items).top, classStack := [], awaiting := none, defStack := [],
            errors := 0 } := by
  rw [← itemsSpecS_eq_of_wf cfg .none false items hwf]
  exact T_aggS_items cfg items (itemsWf_imp_itemsWfS false items hwf) hk1

theorem T_agg (cfg : Cfg) (m : Module)
    (hwf : itemsWf false m.items = true)
    (hk1 : cfg.inclCppClass = true ∨ itemsHaveDocumentedClass m.items = false) :
    ∃ st, aggregate cfg m.events = .ok st ∧ st.documented = m.entries cfg ∧ st.errors = 0 ∧
      st.classStack = [] ∧ st.defStack = [] ∧ st.awaiting = none :=
  T_agg_from_T_aggS cfg m hwf hk1

/-! ## K1: the hypothesis `hk1` is needed -/

def k1Cfg : Cfg := { inclCppClass := false }

/-- four commands: a documented class with a documented and an undocumented attribute -/
def k1Module : Module :=
  { bom := false, modDoc := none, tail := [.nl false],
    items := [
      .block (some (mkDoc "" ["A class."])) (mkCall "cpp_class" ["MyClass"])
        [ .cmd (some (mkDoc "" ["An attribute."])) (mkCall "cpp_attr" ["MyClass", "color", "red"]),
          .cmd none (mkCall "cpp_attr" ["MyClass", "size"]) ]
        (mkCall "cpp_end_class" []) ] }

/-- The run of the listener on `k1Module`, evaluated once: the class is recorded without its attributes and a
    class frame is left behind.  What makes `∃ st, aggregate … = .ok st ∧ …` decidable is the instance
    `Except.decidableExistsOk` (`CminxLemmas/Except.lean`). -/
theorem k1_run :
    itemsWf false k1Module.items = true ∧ itemsHaveDocumentedClass k1Module.items = true ∧
    ∃ st, aggregate k1Cfg k1Module.events = .ok st ∧
      (st.documented = [.cls (lit "MyClass") (lit "A class.\n") [] [] [] [] []] ∧ st.classStack = [some 0] ∧
       st.documented ≠ k1Module.entries k1Cfg ∧ st.documented.length = (k1Module.entries k1Cfg).length) := by
  decide +kernel

/-- Defect K1: with `include_undocumented_cpp_class = false`, a documented class pushes the class stack twice;
    its members are dropped and a class frame is left behind.  The module is well formed, so `T_agg` without
    `hk1` would be false. -/
theorem T_agg_K1_counterexample :
    itemsWf false k1Module.items = true ∧ k1Cfg.inclCppClass = false ∧
    itemsHaveDocumentedClass k1Module.items = true ∧
    ∃ st, aggregate k1Cfg k1Module.events = .ok st ∧ st.documented ≠ k1Module.entries k1Cfg ∧
      st.documented.length = (k1Module.entries k1Cfg).length ∧ st.classStack = [some 0] :=
  let ⟨hwf, hdc, st, hst, _, hcs, hne, hlen⟩ := k1_run
  ⟨hwf, rfl, hdc, st, hst, hne, hlen, hcs⟩

/-! ## non-vacuity: `T_agg` on a concrete module -/

def exModule : Module :=
  { bom := false, modDoc := some (mkDoc " @module mymod" ["Module text."]), tail := [.nl false],
    items := [
      .block (some (mkDoc "" ["A function.", ":param a: first"])) (mkCall "function" ["my_fn", "a"])
        [ .block none (mkCall "if" ["a"])
            [ .cmd none (mkCall "cmake_parse_arguments" ["ARG", "OPTS", "ONE", "MULTI", "${ARGN}"]) ]
            (mkCall "endif" []) ]
        (mkCall "endfunction" []),
      .block (some (mkDoc "" ["A class."])) (mkCall "CPP_CLASS" ["MyClass", "Base"])
        [ .decl (some (mkDoc "" ["A member."])) (mkCall "cpp_member" ["go", "MyClass", "int"])
            (mkCall "macro" ["_go", "self", "n"]) [] (mkCall "endmacro" []) ]
        (mkCall "cpp_end_class" []),
      .decl (some (mkDoc "" ["A test."])) (mkCall "ct_add_test" ["NAME", "t1"]) (mkCall "function" ["${t1}"])
        [ .decl none (mkCall "ct_add_section" ["NAME", "s1", "EXPECTFAIL"]) (mkCall "function" ["${s1}"])
            [] (mkCall "endfunction" []) ]
        (mkCall "endfunction" []),
      .cmd (some (mkDoc "" ["A list."])) (mkCall "set" ["X", "1", "2"]),
      .cmd (some (mkDoc "" ["A call."])) (mkCall "message" ["hello"]) ] }

/-- `exModule` evaluated once: it is well formed, and three observations of its specification -/
theorem exModule_eval :
    itemsWf false exModule.items = true ∧ (exModule.entries {}).length = 7 ∧
    (match (exModule.entries {})[1]? with | some (Entry.func _ _ _ _ kw) => kw | _ => false) = true ∧
    (match (exModule.entries {})[2]? with
      | some (Entry.cls _ _ _ _ _ [m] _) => m.isMacro && m.params == [lit "n"] | _ => false) = true := by
  decide +kernel

theorem exModule_wf : itemsWf false exModule.items = true := exModule_eval.1

example : ∃ st, aggregate {} exModule.events = .ok st ∧ st.documented = exModule.entries {} ∧ st.errors = 0 ∧
    st.classStack = [] ∧ st.defStack = [] ∧ st.awaiting = none :=
  T_agg {} exModule exModule_wf (Or.inl rfl)

/-- the specification of the example is not trivial: module, function (with `**kwargs` from the nested
    `cmake_parse_arguments`), class (with the member completed by its macro), test, section, variable, generic -/
example : (exModule.entries {}).length = 7 := exModule_eval.2.1

example : (match (exModule.entries {})[1]? with | some (Entry.func _ _ _ _ kw) => kw | _ => false) = true :=
  exModule_eval.2.2.1

example : (match (exModule.entries {})[2]? with
    | some (Entry.cls _ _ _ _ _ [m] _) => m.isMacro && m.params == [lit "n"] | _ => false) = true :=
  exModule_eval.2.2.2

end Cminx
