import CminxLemmas.CleanLemmas
import CminxLemmas.RstLemmas
/-!
# C01 — doccomment text reaches the output verbatim (cleaning and paragraph rendering)

`cleanDoc` is the model of `DocumentationAggregator.clean_doc_lines(token_text.split("\n"))`,
`moduleNameDoc` of the `@module` name/doc split in `enterDocumented_module`, `renderPara` of
`Paragraph.build_text_string`.  A doccomment is a `DocC` (`CminxModel/Source.lean`); its token text starts at
`#[[[`, every body line is `ind # text` (bare `ind #` for an empty text), the closing line is `ind #]]`.

The predicates of the hypotheses (`IndOk`, `NoNl`, `StartsAlpha`) are defined in `CminxLemmas/CleanLemmas.lean`,
where the proofs are.
-/
namespace Cminx

open C01

/-- Cleaning a canonical doccomment yields exactly its body line texts, in order, each unchanged, followed by
the empty line that the closing `#]]` leaves.  No hypothesis on the line contents except "no `'\n'`". -/
theorem C01_clean_canonical (d : DocC) (hl : d.leader = true) (hc : d.crlf = false)
    (hs : d.openSuffix = []) (hi : IndOk d.ind) (hn : ∀ t ∈ d.lines, NoNl t) :
    cleanDoc d.tokenText = joinNl (d.lines ++ [[]]) := by
  rw [cleanDoc_tokenText_leader d hl hi (by simp [hs]) hn]
  simp only [hs, hc, eolCr, Bool.false_eq_true, if_false, List.append_nil, List.map_id']
  exact stripLeadNl_joinNl_nil_cons (by simp)

theorem C01_clean_lines (d : DocC) (hl : d.leader = true) (hc : d.crlf = false)
    (hs : d.openSuffix = []) (hi : IndOk d.ind) (hn : ∀ t ∈ d.lines, NoNl t) :
    splitNl (cleanDoc d.tokenText) = d.lines ++ [[]] := by
  rw [C01_clean_canonical d hl hc hs hi hn]
  exact splitNl_joinNl_concat_nil hn

/-- two canonical doccomments with the same body lines clean to the same text whatever their indentation -/
theorem C01_clean_indent_independent (d₁ d₂ : DocC) (hlines : d₁.lines = d₂.lines)
    (hl₁ : d₁.leader = true) (hc₁ : d₁.crlf = false) (hs₁ : d₁.openSuffix = []) (hi₁ : IndOk d₁.ind)
    (hl₂ : d₂.leader = true) (hc₂ : d₂.crlf = false) (hs₂ : d₂.openSuffix = []) (hi₂ : IndOk d₂.ind)
    (hn : ∀ t ∈ d₁.lines, NoNl t) :
    cleanDoc d₁.tokenText = cleanDoc d₂.tokenText := by
  rw [C01_clean_canonical d₁ hl₁ hc₁ hs₁ hi₁ hn,
    C01_clean_canonical d₂ hl₂ hc₂ hs₂ hi₂ (hlines ▸ hn), hlines]

/-- re-indenting a canonical doccomment does not change the cleaned text -/
theorem C01_clean_reindent (d : DocC) (ind' : Str) (hl : d.leader = true) (hc : d.crlf = false)
    (hs : d.openSuffix = []) (hi : IndOk d.ind) (hi' : IndOk ind') (hn : ∀ t ∈ d.lines, NoNl t) :
    cleanDoc { d with ind := ind' }.tokenText = cleanDoc d.tokenText :=
  C01_clean_indent_independent { d with ind := ind' } d rfl hl hc hs hi' hl hc hs hi hn

/-- unindented block, no `#` leaders, every line starts with an ASCII letter -/
theorem C01_clean_leaderless (d : DocC) (hl : d.leader = false) (hi : d.ind = []) (hc : d.crlf = false)
    (hs : d.openSuffix = []) (hn : ∀ t ∈ d.lines, NoNl t) (ha : ∀ t ∈ d.lines, StartsAlpha t) :
    cleanDoc d.tokenText = joinNl (d.lines ++ [[]]) := by
  rw [cleanDoc_tokenText_leaderless d hl hi hc (by simp [hs]) hn ha, hs]
  exact stripLeadNl_joinNl_nil_cons (by simp)

/-- cleaned text of `#[[[<blanks>@module<rest>`: first line is the opening line without `#[[[` and without
one leading space, then the body lines verbatim, then the empty line of the closing delimiter -/
theorem C01_module_clean (d : DocC) (sp rest : Str) (hl : d.leader = true) (hc : d.crlf = false)
    (hi : IndOk d.ind) (ho : d.openSuffix = sp ++ lit "@module" ++ rest) (hsp : IndOk sp)
    (hr : NoNl rest) (hn : ∀ t ∈ d.lines, NoNl t) :
    cleanDoc d.tokenText = joinNl (dropOneSpace (sp ++ lit "@module" ++ rest) :: d.lines ++ [[]]) := by
  have := (moduleNameDoc_tokenText d sp rest hl hi ho hsp hr hn).1
  rw [List.append_assoc, dropOneSpace_append (by rw [litModule_eq]; simp)]
  simpa [hc, eolCr] using this

/-- Name and doc of a module doccomment, for any blanks `sp` before `@module` and any `rest` without a line
break (no other side condition): the name is `rest` with every further `@module` removed, stripped; the doc
is the body lines verbatim. -/
theorem C01_module_doc (d : DocC) (sp rest : Str) (hl : d.leader = true) (hc : d.crlf = false)
    (hi : IndOk d.ind) (ho : d.openSuffix = sp ++ lit "@module" ++ rest) (hsp : IndOk sp)
    (hr : NoNl rest) (hn : ∀ t ∈ d.lines, NoNl t) :
    moduleNameDoc d.tokenText =
      (stripWs (replaceAll (lit "@module") [] rest), joinNl (d.lines ++ [[]])) := by
  have := (moduleNameDoc_tokenText d sp rest hl hi ho hsp hr hn).2
  simpa [hc, eolCr] using this

/-- when `rest` does not contain `@module` again, the name is `rest.strip()` -/
theorem C01_module_doc_name (d : DocC) (sp rest : Str) (hl : d.leader = true) (hc : d.crlf = false)
    (hi : IndOk d.ind) (ho : d.openSuffix = sp ++ lit "@module" ++ rest) (hsp : IndOk sp)
    (hr : NoNl rest) (hm : isInfix (lit "@module") rest = false) (hn : ∀ t ∈ d.lines, NoNl t) :
    moduleNameDoc d.tokenText = (stripWs rest, joinNl (d.lines ++ [[]])) := by
  rw [C01_module_doc d sp rest hl hc hi ho hsp hr hn,
    replaceAll_of_not_infix _ _ _ litModule_ne_nil hm]

/-- with exactly one space before `@module` the first cleaned line is `@module<rest>` -/
theorem C01_module_first_line (d : DocC) (rest : Str) (hl : d.leader = true) (hc : d.crlf = false)
    (hi : IndOk d.ind) (ho : d.openSuffix = [' '] ++ lit "@module" ++ rest)
    (hr : NoNl rest) (hn : ∀ t ∈ d.lines, NoNl t) :
    splitNl (cleanDoc d.tokenText) = (lit "@module" ++ rest) :: d.lines ++ [[]] := by
  have hm : '\n' ∉ lit "@module" ++ rest := by
    rw [litModule_eq]
    simpa [NoNl] using hr
  rw [C01_module_clean d [' '] rest hl hc hi ho (by decide) hr hn]
  exact splitNl_joinNl (by simp) (List.forall_mem_append.2 ⟨List.forall_mem_cons.2 ⟨hm, hn⟩, by simp⟩)

/-- module doccomment with CRLF line ends: the `'\r'` stays at the end of every doc line; the one on the
opening line is stripped from the name together with the other surrounding whitespace -/
theorem C01_module_doc_crlf (d : DocC) (sp rest : Str) (hl : d.leader = true) (hc : d.crlf = true)
    (hi : IndOk d.ind) (ho : d.openSuffix = sp ++ lit "@module" ++ rest) (hsp : IndOk sp)
    (hr : NoNl rest) (hn : ∀ t ∈ d.lines, NoNl t) :
    moduleNameDoc d.tokenText =
      (stripWs (replaceAll (lit "@module") [] (rest ++ ['\r'])),
        joinNl (d.lines.map (· ++ ['\r']) ++ [[]])) := by
  have := (moduleNameDoc_tokenText d sp rest hl hi ho hsp hr hn).2
  simpa [hc, eolCr] using this

/-- `Paragraph`: the rendered text has the same lines as the doc, in order, each prefixed by the indentation
of the enclosing directive -/
theorem C01_paragraph_lines (k : Nat) (doc : Str) :
    splitNl (renderPara k doc) = (splitNl doc).map (indent k ++ ·) :=
  renderPara_lines k doc

/-- the doc block of an item with a canonical doccomment: the body lines, in order, each behind the
directive's indentation, then the (indented) empty line -/
theorem C01_doc_block (k : Nat) (d : DocC) (hl : d.leader = true) (hc : d.crlf = false)
    (hs : d.openSuffix = []) (hi : IndOk d.ind) (hn : ∀ t ∈ d.lines, NoNl t) :
    splitNl (renderPara k (cleanDoc d.tokenText)) = (d.lines ++ [[]]).map (indent k ++ ·) := by
  rw [C01_paragraph_lines, C01_clean_lines d hl hc hs hi hn]

/-- With `\r\n` line ends the `'\r'` of every line survives cleaning: the opening line leaves `"\r"` (so no
leading newline is removed), every body line comes back as `text ++ "\r"`, the closing line leaves `""`.
Lines may themselves contain `'\r'`; only `'\n'` is excluded. -/
theorem C01_clean_crlf (d : DocC) (hl : d.leader = true) (hc : d.crlf = true)
    (hs : d.openSuffix = []) (hi : IndOk d.ind) (hn : ∀ t ∈ d.lines, NoNl t) :
    cleanDoc d.tokenText = joinNl (['\r'] :: (d.lines.map (· ++ ['\r'])) ++ [[]]) := by
  rw [cleanDoc_tokenText_leader d hl hi (by simp [hs]) hn]
  simp only [hs, hc, eolCr, if_true, List.nil_append]
  exact stripLeadNl_joinNl_cons (by decide) (by decide) _

/-! ## non-vacuity: every hypothesis set is satisfied by a non-trivial doccomment -/

namespace C01

/-- lines starting with `#`, `[`, `]`, `:`, `..`, spaces; an empty line; non-ASCII text; a line that is only
delimiters; indentation mixing tab and spaces -/
def exDoc : DocC :=
  { pre := [], ind := " \t  ".toList, openSuffix := [],
    lines := ["#x".toList, "[y] z".toList, "  indented".toList, [], "héllo ✓ — λ".toList, ": a".toList,
      ".. note::".toList, "]]#".toList, " ".toList],
    leader := true, crlf := false }

theorem exDoc_ind : IndOk exDoc.ind := lit_of (by decide)

theorem exDoc_lines : ∀ t ∈ exDoc.lines, NoNl t := by
  unfold exDoc
  repeat rw [String.toList_ofList]
  decide

example : cleanDoc exDoc.tokenText = joinNl (exDoc.lines ++ [[]]) :=
  C01_clean_canonical exDoc rfl rfl rfl exDoc_ind exDoc_lines

example : String.ofList (cleanDoc exDoc.tokenText) =
    "#x\n[y] z\n  indented\n\nhéllo ✓ — λ\n: a\n.. note::\n]]#\n \n" := by
  rw [C01_clean_canonical exDoc rfl rfl rfl exDoc_ind exDoc_lines]
  unfold exDoc
  repeat rw [String.toList_ofList]
  rfl

example : splitNl (cleanDoc exDoc.tokenText) = exDoc.lines ++ [[]] :=
  C01_clean_lines exDoc rfl rfl rfl exDoc_ind exDoc_lines

example : cleanDoc { exDoc with ind := [] }.tokenText = cleanDoc exDoc.tokenText :=
  C01_clean_reindent exDoc [] rfl rfl rfl exDoc_ind (by decide) exDoc_lines

example : cleanDoc { exDoc with ind := ['\t'] }.tokenText = cleanDoc exDoc.tokenText :=
  C01_clean_indent_independent { exDoc with ind := ['\t'] } exDoc rfl rfl rfl rfl (by decide) rfl rfl rfl exDoc_ind
    exDoc_lines

example : splitNl (renderPara 2 (cleanDoc exDoc.tokenText)) = (exDoc.lines ++ [[]]).map (indent 2 ++ ·) :=
  C01_doc_block 2 exDoc rfl rfl rfl exDoc_ind exDoc_lines

example : splitNl (renderPara 1 "a\n\n  b".toList) = ["   a".toList, "   ".toList, "     b".toList] := by
  rw [C01_paragraph_lines]
  repeat rw [String.toList_ofList]
  decide

example : cleanDoc { exDoc with crlf := true }.tokenText =
    joinNl (['\r'] :: (exDoc.lines.map (· ++ ['\r'])) ++ [[]]) :=
  C01_clean_crlf { exDoc with crlf := true } rfl rfl rfl exDoc_ind exDoc_lines

/-- leaderless doccomment -/
def exBare : DocC :=
  { pre := [], ind := [], openSuffix := [],
    lines := ["Adds two numbers.".toList, "Z [x] #]".toList, "a  é ✓".toList],
    leader := false, crlf := false }

theorem exBare_lines : ∀ t ∈ exBare.lines, NoNl t ∧ StartsAlpha t := by
  unfold exBare
  repeat rw [String.toList_ofList]
  decide

example : cleanDoc exBare.tokenText = joinNl (exBare.lines ++ [[]]) :=
  C01_clean_leaderless exBare rfl rfl rfl rfl (fun t ht => (exBare_lines t ht).1) (fun t ht => (exBare_lines t ht).2)

/-- module doccomment: tab and two spaces before `@module`, trailing blanks after the name -/
def exMod : DocC := { exDoc with openSuffix := "\t  @module my.mod_ule  ".toList }

example : moduleNameDoc exMod.tokenText = ("my.mod_ule".toList, joinNl (exDoc.lines ++ [[]])) := by
  rw [C01_module_doc_name exMod "\t  ".toList " my.mod_ule  ".toList rfl rfl exDoc_ind
    (by decide +kernel)
    (lit_of (by decide)) (lit_of (by decide)) (by rw [String.toList_ofList, lit_ofList]; decide) exDoc_lines]
  repeat rw [String.toList_ofList]
  exact congrArg (·, _) (by decide)

example : (moduleNameDoc { exDoc with openSuffix := "@module a@moduleb".toList }.tokenText).1 = "ab".toList := by
  rw [C01_module_doc { exDoc with openSuffix := "@module a@moduleb".toList } [] " a@moduleb".toList rfl rfl exDoc_ind
    (by decide +kernel)
    (by decide) (lit_of (by decide)) exDoc_lines]
  repeat rw [String.toList_ofList]
  rw [lit_ofList]
  decide

example : splitNl (cleanDoc { exDoc with openSuffix := " @module  n".toList }.tokenText) =
    "@module  n".toList :: exDoc.lines ++ [[]] := by
  rw [C01_module_first_line { exDoc with openSuffix := " @module  n".toList } "  n".toList rfl rfl exDoc_ind
    (by decide +kernel)
    (lit_of (by decide)) exDoc_lines]
  rw [lit_ofList, String.toList_ofList, String.toList_ofList]
  rfl

example : moduleNameDoc { exDoc with openSuffix := " @module n".toList, crlf := true }.tokenText =
    ("n".toList, joinNl (exDoc.lines.map (· ++ ['\r']) ++ [[]])) := by
  rw [C01_module_doc_crlf { exDoc with openSuffix := " @module n".toList, crlf := true } [' '] " n".toList rfl rfl
    exDoc_ind
    (by decide +kernel)
    (by decide) (lit_of (by decide)) exDoc_lines]
  repeat rw [String.toList_ofList]
  rw [lit_ofList]
  exact congrArg (·, _) (by decide)

end C01

end Cminx
