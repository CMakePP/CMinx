import CminxProps.C13
/-!
# C14 — index.rst toctrees are closed and complete

Model: `walkDir` / `indexPage` in `CminxModel/Walk.lean`.  Spec side (`WalkSpec.lean`): `indexesOf`, `pagesOf`,
`Processed`, `Guard`, `indexDoc` (title `indexTitle`, one `toctree` directive with option `maxdepth: 2` whose
body is one paragraph per entry of `tocEntries`).
-/
namespace Cminx

/-- what the toctree of an index lists — by definition of `tocEntries` -/
theorem C14_tocEntries_eq (c : WalkCfg) (subdirs files : List Str) :
    tocEntries c subdirs files =
      (if c.recursive then subdirs.map (· ++ lit "/index.rst") else []) ++
        (files.filter isCMakeName).map stem := rfl

/-- the index text is the serialised `indexDoc`: heading = `indexTitle`, body = one `toctree` with
    `:maxdepth: 2` and one paragraph per entry -/
theorem C14_indexPage {c : WalkCfg} {hc : Str} {hs : List Str} (hh : c.headers = hc :: hs) (pfx : Str)
    (rel subdirs files : List Str) :
    indexPage c pfx rel subdirs files = .ok (indexDoc c pfx hc rel subdirs files).render ∧
      (indexDoc c pfx hc rel subdirs files).title = indexTitle c pfx rel ∧
      (indexDoc c pfx hc rel subdirs files).body =
        [.directive (lit "toctree") [] [(lit "maxdepth", lit "2")]
          ((tocEntries c subdirs files).map Elem.para)] :=
  ⟨indexPage_eq hh rel subdirs files, rfl, rfl⟩

/-- File mode, error-free, guard: for every processed directory `rel'` (listing `l'`) the run writes
    `rel'/index.rst` with the serialised `indexDoc` of its sorted surviving sub-directories and its sorted
    non-excluded files. -/
theorem C14_entries {c : WalkCfg} {excl : List Str → Bool → Bool} {pfx : Str} {rel : List Str}
    {listing : List FsNode} {r : RunResult}
    (hf : c.toStdout = false) (htree : treeOk listing = true) (hr : r.error = none)
    {hc : Str} {hs : List Str} (hh : c.headers = hc :: hs)
    (hp : ∀ p ∈ pagesOf c excl rel listing, (page c (some pfx) (relPath p) p.2.2).isOk = true)
    (hg : Guard c excl rel listing) {rel' : List Str} {l' : List FsNode}
    (hproc : Processed c excl rel listing rel' l') :
    (⟨rel' ++ [lit "index.rst"],
      (indexDoc c pfx hc rel' (sortStrs (survivingDirs c excl rel' l')) (sortStrs (keptFiles excl rel' l'))).render⟩
        : Write) ∈ (walkDir c excl pfx rel listing r).writes := by
  rw [walkDir_file_ok hf htree hr (by simp [hh]) hp]
  refine List.mem_append_right _ (List.mem_map.2 ⟨_, mem_indexesOf.1 (hproc.index_mem hg), ?_⟩)
  simp only [WItem.write, WItem.path, WItem.textD, WItem.text, indexPage_eq hh, okText]

/-- The sub-directory names and the file names an index is built from list, each exactly once, the surviving
    sub-directories resp. the non-excluded CMake files — when the names in the directory listing are distinct. -/
theorem C14_entries_once (c : WalkCfg) (excl : List Str → Bool → Bool) (rel' : List Str) (l' : List FsNode)
    (hd : (dirNames l').Nodup) (hfn : (fileNames l').Nodup) :
    (sortStrs (survivingDirs c excl rel' l')).Nodup ∧
      (∀ n, n ∈ sortStrs (survivingDirs c excl rel' l') ↔
        ∃ ch, FsNode.dir n ch ∈ l' ∧ survives c excl rel' n ch = true) ∧
      ((sortStrs (keptFiles excl rel' l')).filter isCMakeName).Nodup ∧
      (∀ f, f ∈ (sortStrs (keptFiles excl rel' l')).filter isCMakeName ↔
        (f ∈ fileNames l' ∧ excl (rel' ++ [f]) false = false ∧ isCMakeName f = true)) := by
  refine ⟨?_, ?_, ?_, ?_⟩
  · exact (sortStrs_perm _).nodup_iff.2 ((survivingDirs_sublist l').nodup hd)
  · intro n
    rw [mem_sortStrs, mem_survivingDirs]
  · exact ((sortStrs_perm _).nodup_iff.2 ((keptFiles_sublist l').nodup hfn)).filter _
  · intro f
    rw [List.mem_filter, mem_sortStrs, mem_keptFiles, and_assoc]

/-- The toctree entry strings are pairwise distinct, provided the stems of the listed CMake files are distinct
    (this is an explicit hypothesis: `a.cmake` and `a.CMake` share the stem `a` — known finding K4) and no file
    name contains `/`. -/
theorem C14_entries_nodup (c : WalkCfg) (subdirs files : List Str) (hsub : subdirs.Nodup)
    (hstem : ((files.filter isCMakeName).map stem).Nodup) (hslash : ∀ f ∈ files, '/' ∉ f) :
    (tocEntries c subdirs files).Nodup := by
  unfold tocEntries
  rw [List.nodup_append]
  refine ⟨?_, hstem, ?_⟩
  · split
    · exact List.Pairwise.map _ (fun a b hne h => hne (List.append_cancel_right h)) hsub
    · simp
  · intro a ha b hb hab
    subst hab
    split at ha
    · obtain ⟨n, _, rfl⟩ := List.mem_map.1 ha
      obtain ⟨f, hf, hfe⟩ := List.mem_map.1 hb
      have : '/' ∈ stem f := by rw [hfe]; simp [lit]
      exact hslash f (List.mem_filter.1 hf).1 (mem_stem this)
    · simp at ha

/-- **D7.**  A sub-directory that survives the parent's selection has, when auto-exclusion is on, a non-excluded
    `.cmake` file — by the very test (`hasCMake`) that decides whether the directory itself gets an index.  So a
    sub-directory listed in a toctree always gets its `index.rst`. -/
theorem C14_survivor_has_index {c : WalkCfg} {excl : List Str → Bool → Bool} {rel : List Str} {n : Str}
    {ch : List FsNode} (hs : survives c excl rel n ch = true) :
    ∃ subs files, dirItems c excl (rel ++ [n]) ch = .index (rel ++ [n]) subs files ::
      dirPages (rel ++ [n]) ch files :=
  ⟨_, _, if_neg (by simpa [Guard] using Guard.of_survives hs)⟩

/-- File mode, error-free, guard: every toctree entry of every generated index has a generated target:
    for each listed sub-directory (entries `<sub>/index.rst`, present only with `-r`) the run writes
    `<dir>/<sub>/index.rst`, and for each listed CMake file (entry `stem f`) it writes `<dir>/<stem f>.rst`. -/
theorem C14_closed {c : WalkCfg} {excl : List Str → Bool → Bool} {pfx : Str} {rel : List Str}
    {listing : List FsNode} {r : RunResult}
    (hf : c.toStdout = false) (htree : treeOk listing = true) (hr : r.error = none) (hh : c.headers ≠ [])
    (hp : ∀ p ∈ pagesOf c excl rel listing, (page c (some pfx) (relPath p) p.2.2).isOk = true)
    (hg : Guard c excl rel listing) {d : List Str × List Str × List Str}
    (hd : d ∈ indexesOf c excl rel listing) :
    (c.recursive = true → ∀ sub ∈ d.2.1,
        ∃ w ∈ (walkDir c excl pfx rel listing r).writes, w.path = d.1 ++ [sub, lit "index.rst"]) ∧
      (∀ f ∈ d.2.2, isCMakeName f = true →
        ∃ w ∈ (walkDir c excl pfx rel listing r).writes, w.path = d.1 ++ [stem f ++ lit ".rst"]) := by
  obtain ⟨l', hproc, h1, h2⟩ := (C13_processed_dirs hg d).1 hd
  have hw : ∀ it ∈ layoutOf c excl rel listing,
      ∃ w ∈ (walkDir c excl pfx rel listing r).writes, w.path = it.path :=
    fun it hit => List.mem_map.1 ((C13_writes hf htree hr hh hp).1 ▸ List.mem_append_right _ (List.mem_map_of_mem hit))
  constructor
  · intro hrec sub hsub
    rw [h1, mem_sortStrs, mem_survivingDirs] at hsub
    obtain ⟨ch, hm, hs⟩ := hsub
    simpa [WItem.path] using hw _ (mem_indexesOf.1 ((Processed.sub hproc hrec hm hs).index_mem hg))
  · intro f hfm hcm
    rw [h2, mem_sortStrs] at hfm
    obtain ⟨ct, hct⟩ := findFile_isSome_of_mem (mem_keptFiles.1 hfm).1
    exact hw _ (mem_pagesOf.1 ((C13_processed_files hg (d.1, f, ct)).2 ⟨l', hproc, hfm, hcm, hct⟩))

/-- The title of the top index is the prefix, whatever the separator is (before the repair `8466859` it was
    `prefix ++ sep ++ "."` for every separator other than `"."`); the title of the index of a sub-directory is
    `prefix ++ sep ++ path`. -/
theorem C14_title (c : WalkCfg) (pfx : Str) :
    indexTitle c pfx [] = pfx ∧
    (∀ rel' : List Str, rel' ≠ [] → indexTitle c pfx rel' = pfx ++ c.sep ++ joinWith ['/'] rel') := by
  refine ⟨by simp [indexTitle], fun rel' h1 => ?_⟩
  cases rel' with
  | nil => exact absurd rfl h1
  | cons a as => simp [indexTitle, relStr]

/-- every page is listed in the index of its own directory -/
theorem C14_reachable_page {c : WalkCfg} {excl : List Str → Bool → Bool} {rel : List Str}
    {listing : List FsNode} {p : List Str × Str × Str} (hp : p ∈ pagesOf c excl rel listing) :
    ∃ d ∈ indexesOf c excl rel listing, d.1 = p.1 ∧ stem p.2.1 ∈ tocEntries c d.2.1 d.2.2 := by
  obtain ⟨rel', l', hproc, hi⟩ := mem_layoutOf_iff_processed.1 (mem_pagesOf.1 hp)
  obtain ⟨hne, h | ⟨_, _, h, h2, h3, h4⟩⟩ := mem_dirItems.1 hi
  · cases h
  cases h
  refine ⟨(p.1, sortStrs (survivingDirs c excl p.1 l'), sortStrs (keptFiles excl p.1 l')), ?_, rfl, ?_⟩
  · exact mem_indexesOf.2 (mem_layoutOf_iff_processed.2 ⟨_, _, hproc, mem_dirItems.2 ⟨hne, .inl rfl⟩⟩)
  · simp only [tocEntries, List.mem_append, List.mem_map, List.mem_filter, mem_sortStrs]
    exact Or.inr ⟨p.2.1, ⟨h2, h3⟩, rfl⟩

theorem mem_tocEntries_sub {c : WalkCfg} {excl : List Str → Bool → Bool} {rel : List Str} {l : List FsNode}
    (hrec : c.recursive = true) {n : Str} {ch : List FsNode} (hm : FsNode.dir n ch ∈ l)
    (hs : survives c excl rel n ch = true) (files : List Str) :
    (n ++ lit "/index.rst") ∈ tocEntries c (sortStrs (survivingDirs c excl rel l)) files := by
  simp only [tocEntries, hrec, if_true, List.mem_append, List.mem_map, mem_sortStrs, mem_survivingDirs]
  exact Or.inl ⟨n, ⟨ch, hm, hs⟩, rfl⟩

/-- under the guard, every index other than the top one is listed (as `<name>/index.rst`) in the index of its
    parent directory -/
theorem C14_reachable_parent {c : WalkCfg} {excl : List Str → Bool → Bool} {rel : List Str}
    {listing : List FsNode} (hg : Guard c excl rel listing) {d : List Str × List Str × List Str}
    (hd : d ∈ indexesOf c excl rel listing) (hne : d.1 ≠ rel) :
    ∃ d' ∈ indexesOf c excl rel listing, ∃ n, d.1 = d'.1 ++ [n] ∧
      (n ++ lit "/index.rst") ∈ tocEntries c d'.2.1 d'.2.2 := by
  obtain ⟨l', hproc, _, _⟩ := (C13_processed_dirs hg d).1 hd
  generalize hd1 : d.1 = rel' at hproc hne
  cases hproc with
  | root => exact absurd rfl hne
  | sub hpar hrec hm hs => exact ⟨_, hpar.index_mem hg, _, rfl, mem_tocEntries_sub hrec hm hs _⟩

/-- `Linked c I top d`: the directory `d` is reached from the top index through toctree entries of indexes in `I` -/
inductive Linked (c : WalkCfg) (I : List (List Str × List Str × List Str)) (top : List Str) : List Str → Prop where
  | top : Linked c I top top
  | step {d : List Str × List Str × List Str} {n : Str} : Linked c I top d.1 → d ∈ I →
      (n ++ lit "/index.rst") ∈ tocEntries c d.2.1 d.2.2 → Linked c I top (d.1 ++ [n])

/-- Under the guard the top index exists, every generated index is linked from it through a chain of
    `<sub>/index.rst` toctree entries of generated indexes, and (`C14_reachable_page`) every page is listed in the
    index of its directory: every generated file is reachable from the top `index.rst`. -/
theorem C14_reachable {c : WalkCfg} {excl : List Str → Bool → Bool} {rel : List Str}
    {listing : List FsNode} (hg : Guard c excl rel listing) :
    (∃ d ∈ indexesOf c excl rel listing, d.1 = rel) ∧
      (∀ d ∈ indexesOf c excl rel listing, Linked c (indexesOf c excl rel listing) rel d.1) ∧
      (∀ p ∈ pagesOf c excl rel listing, Linked c (indexesOf c excl rel listing) rel p.1) := by
  have key : ∀ rel' l', Processed c excl rel listing rel' l' →
      Linked c (indexesOf c excl rel listing) rel rel' := by
    intro rel' l' hproc
    induction hproc with
    | root => exact .top
    | sub hpar hrec hm hs ih => exact .step ih (hpar.index_mem hg) (mem_tocEntries_sub hrec hm hs _)
  refine ⟨⟨_, Processed.root.index_mem hg, rfl⟩, ?_, ?_⟩
  · intro d hd
    obtain ⟨l', hproc, _⟩ := (C13_processed_dirs hg d).1 hd
    exact key _ _ hproc
  · intro p hp
    obtain ⟨l', hproc, _⟩ := (C13_processed_files hg p).1 hp
    exact key _ _ hproc

/-! ## Non-vacuity: the example tree of `WalkSpec.lean` -/

-- the index of `sub`: title `P.sub`, toctree `deep/index.rst` (the auto-excluded `nocmake` is absent), then `c`
set_option maxRecDepth 8192 in
example : (⟨[lit "sub", lit "index.rst"],
      lit "\n#####\nP.sub\n#####\n\n.. toctree:: \n   :maxdepth: 2\n\n   deep/index.rst\n   c\n\n"⟩ : Write) ∈
    (walkDir exCfg exExcl (lit "P") [] exTree {}).writes := by
  have h := C14_entries (c := exCfg) (pfx := lit "P") (r := {}) rfl ex_treeOk rfl (hc := ['#']) (hs := []) rfl
    ex_ok ex_guard ex_sub_processed
  rw [sortStrs_eq_isort, sortStrs_eq_isort] at h
  -- path and text are evaluated; the expected text is read off the goal, not decoded
  refine Eq.mp (congrArg (· ∈ (walkDir exCfg exExcl (lit "P") [] exTree {}).writes) (congr (congrArg Write.mk ?_) ?_)) h
  · decide +kernel
  · exact eq_lit_of (by decide +kernel)

-- the top index lists `sub/index.rst`, then `A` and `b` (sorted; the mixed-case file included, `readme.txt` and
-- the excluded `skip.cmake` and `hidden` not)
example : tocEntries exCfg [lit "sub"] [lit "A.CMake", lit "b.cmake", lit "readme.txt"] =
    [lit "sub/index.rst", lit "A", lit "b"] := by decide +kernel

example : (tocEntries exCfg [lit "sub"] [lit "A.CMake", lit "b.cmake", lit "readme.txt"]).Nodup :=
  C14_entries_nodup exCfg _ _ (by decide +kernel) (by decide +kernel) (by decide +kernel)

-- the stem hypothesis of `C14_entries_nodup` is needed: `a.cmake` and `a.CMake` give the entry `a` twice
example : ¬ (tocEntries exCfg [] [lit "a.CMake", lit "a.cmake"]).Nodup := by decide +kernel

example : (∃ w ∈ (walkDir exCfg exExcl (lit "P") [] exTree {}).writes, w.path = [lit "sub", lit "index.rst"]) ∧
    (∃ w ∈ (walkDir exCfg exExcl (lit "P") [] exTree {}).writes, w.path = [lit "A.rst"]) := by
  have h := C14_closed (c := exCfg) (pfx := lit "P") (r := {}) rfl ex_treeOk rfl (by decide) ex_ok ex_guard
    (d := ([], [lit "sub"], [lit "A.CMake", lit "b.cmake", lit "readme.txt"])) (by rw [ex_indexes]; exact .head _)
  exact ⟨h.1 rfl (lit "sub") (.head _), h.2 (lit "A.CMake") (.head _) (by decide +kernel)⟩

example : indexTitle exCfg (lit "P") [] = lit "P" := (C14_title exCfg (lit "P")).1
example : indexTitle exCfg (lit "P") [lit "sub", lit "deep"] = lit "P.sub/deep" := by
  rw [(C14_title exCfg (lit "P")).2 _ (List.cons_ne_nil _ _)]
  exact eq_lit_of (by decide +kernel)
-- also with another separator the top index is titled with the prefix alone
example : indexTitle { exCfg with sep := lit "::" } (lit "P") [] = lit "P" := (C14_title _ (lit "P")).1

example : Linked exCfg (indexesOf exCfg exExcl [] exTree) [] [lit "sub", lit "deep"] :=
  (C14_reachable ex_guard).2.1 ([lit "sub", lit "deep"], [], [lit "d.cmake"])
    (by rw [ex_indexes]; exact .tail _ (.tail _ (.head _)))
example : ∀ p ∈ pagesOf exCfg exExcl [] exTree, Linked exCfg (indexesOf exCfg exExcl [] exTree) [] p.1 :=
  (C14_reachable ex_guard).2.2

-- D7: a sub-directory whose only `.cmake` file is excluded by pattern does not survive, is not listed, and
-- (consistently) gets no index
example : survivingDirs exCfg (fun p _ => p.getLast? == some (lit "only.cmake")) []
    [.file (lit "top.cmake") [], .dir (lit "s") [.file (lit "only.cmake") []]] = [] := by decide +kernel
example : indexesOf exCfg (fun p _ => p.getLast? == some (lit "only.cmake")) []
    [.file (lit "top.cmake") [], .dir (lit "s") [.file (lit "only.cmake") []]] = [([], [], [lit "top.cmake"])] := by
  simp only [indexesOf, layoutOf, dirItems, sortStrs_eq_isort]
  decide +kernel

end Cminx
