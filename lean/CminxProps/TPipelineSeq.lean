import CminxProps.C05
/-!
# The central chain over the sequence-aware domain

`T_documented` / `T_pipeline` / `C05_accepted` (C05.lean) with `T_agg` replaced by `T_aggS` (TAggSeq.lean): the same
statements for modules in which a member/test declaration may be separated from its implementing definition by
ordinary commands and in which that definition may carry a doccomment of its own (`itemsWfS`).  The expected entries
are `Module.entriesS`; on `itemsWf` modules they coincide with `Module.entries` (`entriesS_eq_of_wf`).
-/
namespace Cminx

/-- the `documented` list CMinx builds from the printed text of a valid module that is well formed in the
    sequence-aware sense is the list the sequence-aware structural specification reads off the module -/
theorem T_documentedS (cfg : Cfg) (m : Module) (hv : m.valid = true) (hwf : itemsWfS false false m.items = true)
    (hk1 : cfg.inclCppClass = true ∨ itemsHaveDocumentedClass m.items = false) :
    documentedOf cfg m.render = .ok (m.entriesS cfg) := by
  obtain ⟨st, ha, hd, -⟩ := T_aggS cfg m hwf hk1
  rw [documentedOf_render cfg hv ha, hd]

/-- **T-pipeline, sequence-aware**: the page written for the printed text of such a module -/
theorem T_pipelineS (cfg : Cfg) (hc : Str) (hs : List Str) (title modName : Str) (m : Module)
    (hv : m.valid = true) (hwf : itemsWfS false false m.items = true)
    (hk1 : cfg.inclCppClass = true ∨ itemsHaveDocumentedClass m.items = false) :
    pipeline cfg (hc :: hs) title modName m.render =
      .ok (processDocs hc title modName (m.entriesS cfg)).render := by
  simp only [pipeline, T_documentedS cfg m hv hwf hk1]

/-- such a file is processed to completion without error -/
theorem C05_acceptedS (cfg : Cfg) (hc : Str) (hs : List Str) (title modName : Str) (m : Module)
    (hv : m.valid = true) (hwf : itemsWfS false false m.items = true)
    (hk1 : cfg.inclCppClass = true ∨ itemsHaveDocumentedClass m.items = false) :
    ∃ out, pipeline cfg (hc :: hs) title modName m.render = .ok out :=
  ⟨_, T_pipelineS cfg hc hs title modName m hv hwf hk1⟩

/-- `T_pipeline` (C05.lean) as the `itemsWf` case of `T_pipelineS`: the sequence-aware chain covers the plain one -/
theorem T_pipeline_from_S (cfg : Cfg) (hc : Str) (hs : List Str) (title modName : Str) (m : Module)
    (hv : m.valid = true) (hwf : itemsWf false m.items = true)
    (hk1 : cfg.inclCppClass = true ∨ itemsHaveDocumentedClass m.items = false) :
    pipeline cfg (hc :: hs) title modName m.render =
      .ok (processDocs hc title modName (m.entries cfg)).render := by
  rw [T_pipelineS cfg hc hs title modName m hv (itemsWf_imp_itemsWfS false m.items hwf) hk1, entriesS_eq_of_wf cfg m hwf]

/-- non-vacuity: the two example modules of TAggSeq.lean (a split test declaration; a documented implementing
    definition) are valid, so `T_pipelineS` applies to their printed text -/
theorem TPipelineSeq_examples_valid : exSplitTest.valid = true ∧ exDocImpl.valid = true := by
  simp only [exSplitTest, exDocImpl, mkCallS, mkDocS, List.map]
  repeat rw [String.toList_ofList]
  decide +kernel

theorem TPipelineSeq_examples_run (hc : Str) (hs : List Str) (title modName : Str) :
    pipeline {} (hc :: hs) title modName exSplitTest.render =
        .ok (processDocs hc title modName (exSplitTest.entriesS {})).render ∧
    pipeline {} (hc :: hs) title modName exDocImpl.render =
        .ok (processDocs hc title modName (exDocImpl.entriesS {})).render :=
  ⟨T_pipelineS {} hc hs title modName _ TPipelineSeq_examples_valid.1 TAggSeq_examples_wf.1 (Or.inl rfl),
   T_pipelineS {} hc hs title modName _ TPipelineSeq_examples_valid.2 TAggSeq_examples_wf.2.2.1 (Or.inl rfl)⟩

end Cminx
