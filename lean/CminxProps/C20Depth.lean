import CminxProps.C20Full
/-!
# C20, whole API: where an element is printed

`FOccurs` relates an element inside a tree to the depth it is rendered at, and its text at that depth occurs verbatim inside the
text of the tree (`C20F_occurs_infix`).  `C20F_appended_at_depth` lifts this to API calls: an element appended through a handle
whose writer lies `d` directives below the nearest section (or the top-level writer) is printed exactly as it is printed at depth
`d` on its own, and `C20F_text_call` / `_field_call` / `_list_call` / `_directive_call` read that off for the four kinds the
property names (for a paragraph every line is `3*d` blanks followed by the line's own text, `C20F_para_lines`).
-/
namespace Cminx

/-- `FOccurs d e d0 root`: when `root` is rendered at depth `d0`, the element `e` inside it is rendered at depth `d` —
    one deeper per enclosing directive, back to 0 below a section -/
inductive FOccurs (d : Nat) (e : FElem) : Nat → FElem → Prop
  | here : FOccurs d e d e
  | inDir (d0 : Nat) (x : FElem) (name : Str) (args : List Str) (opts : List (Str × Str)) (body : List FElem) :
      x ∈ body → FOccurs d e (d0 + 1) x → FOccurs d e d0 (.directive name args opts body)
  | inSect (d0 : Nat) (x : FElem) (k : Nat) (hc title : Str) (body : List FElem) :
      x ∈ body → FOccurs d e 0 x → FOccurs d e d0 (.sect k hc title body)

theorem render_infix_renderFElems (d : Nat) (x : FElem) (body : List FElem) (h : x ∈ body) :
    x.render d <:+: renderFElems d body :=
  renderFElems_eq d body ▸ infix_flatMap_nl _ h

theorem renderFElems_suffix_heading (hc title : Str) (body : List FElem) :
    renderFElems 0 body <:+ renderHeading hc title ++ '\n' :: renderFElems 0 body :=
  (List.suffix_cons _ _).trans (List.suffix_append _ _)

/-- the text of every element occurs, rendered at its own depth, inside the text of whatever contains it -/
theorem C20F_occurs_infix {d : Nat} {e : FElem} {d0 : Nat} {root : FElem} (h : FOccurs d e d0 root) :
    e.render d <:+: root.render d0 := by
  induction h with
  | here => exact List.infix_refl _
  | inDir d0 x name args opts body hx _ ih =>
    exact (ih.trans (render_infix_renderFElems (d0 + 1) x body hx)).trans (List.suffix_append _ _).isInfix
  | inSect d0 x k hc title body hx _ ih =>
    exact (ih.trans (render_infix_renderFElems 0 x body hx)).trans (renderFElems_suffix_heading hc title body).isInfix

/-- … in particular for a document: an element `d` directives below the top-level writer or below a section -/
theorem C20F_occurs_doc (w : FDoc) {d : Nat} {e x : FElem} (hx : x ∈ w.body) (h : FOccurs d e 0 x) :
    e.render d <:+: w.render :=
  ((C20F_occurs_infix h).trans (render_infix_renderFElems 0 x w.body hx)).trans
    (renderFElems_suffix_heading w.hc w.title w.body).isInfix

/-- every line of a paragraph printed at depth `d` starts with exactly `3*d` blanks followed by its own text -/
theorem C20F_para_lines (d : Nat) (t : Str) :
    splitNl ((FElem.para t).render d) = (splitNl t).map (indent d ++ ·) :=
  renderPara_lines d t

/-- a nested directive's heading line at depth `d` -/
theorem C20F_dir_heading (d : Nat) (name : Str) (args : List Str) (opts : List (Str × Str)) (body : List FElem) :
    renderDirHeading d name args <+: (FElem.directive name args opts body).render d := by
  simp only [FElem.render, List.append_assoc]
  exact List.prefix_append _ _

mutual
/-- the depth at which the children of the writer at `path` are rendered, when the element itself is rendered at depth `d` -/
def FElem.depthAt (d : Nat) : List Nat → FElem → Option Nat
  | [], .directive _ _ _ _ => some (d + 1)
  | [], .sect _ _ _ _ => some 0
  | i :: path, .directive _ _ _ body => fdepthAt (d + 1) i path body
  | i :: path, .sect _ _ _ body => fdepthAt 0 i path body
  | _, _ => none
def fdepthAt (d : Nat) : Nat → List Nat → List FElem → Option Nat
  | _, _, [] => none
  | 0, path, e :: _ => e.depthAt d path
  | i + 1, path, _ :: es => fdepthAt d i path es
end

/-- number of directives between the writer a handle names and the nearest section (or the top-level writer) above it -/
def FDoc.depthAt (w : FDoc) : List Nat → Option Nat
  | [] => some 0
  | i :: path => fdepthAt 0 i path w.body

theorem fdepthAt_eq (d i : Nat) (p : List Nat) (es : List FElem) :
    fdepthAt d i p es = es[i]?.bind (·.depthAt d p) := by
  induction es generalizing i with
  | nil => simp [fdepthAt]
  | cons e es ih => cases i <;> simp [fdepthAt, ih]

/-- Appending `e` through the path `i :: p` into a body puts it at the depth `fdepthAt` computes.  Only the element the path goes
    through changes, and below it the statement recurs on the rest of the path. -/
theorem updateAt_occurs (e : FElem) (i : Nat) (p : List Nat) (body : List FElem) (d0 d : Nat)
    (h : fdepthAt d0 i p body = some d) : ∃ x ∈ fupdateAt (.append e) i p body, FOccurs d e d0 x := by
  rw [fdepthAt_eq] at h
  obtain ⟨y, hy, hd⟩ := Option.bind_eq_some_iff.1 h
  refine ⟨_, fupdateAt_eq .. ▸ mem_modify _ hy, ?_⟩
  cases p with
  | nil =>
    cases y with
    | directive n a o b =>
      cases hd
      exact .inDir d0 e n a o (b ++ [e]) (by simp) .here
    | sect k hc t b =>
      cases hd
      exact .inSect d0 e k hc t (b ++ [e]) (by simp) .here
    | _ => cases hd
  | cons j p =>
    cases y with
    | directive n a o b =>
      obtain ⟨x, hx, ho⟩ := updateAt_occurs e j p b (d0 + 1) d hd
      exact .inDir d0 x n a o _ hx ho
    | sect k hc t b =>
      obtain ⟨x, hx, ho⟩ := updateAt_occurs e j p b 0 d hd
      exact .inSect d0 x k hc t _ hx ho
    | _ => cases hd

/-- the same for a single element: it is the only member of the body `[x]` -/
theorem update_occurs (e : FElem) : ∀ (p : List Nat) (x : FElem) (d0 d : Nat),
    x.depthAt d0 p = some d → FOccurs d e d0 (x.update (.append e) p) := by
  intro p x d0 d h
  obtain ⟨y, hy, ho⟩ := updateAt_occurs e 0 p [x] d0 d h
  cases List.mem_singleton.1 hy
  exact ho

/-- **the indentation statement for the whole API** -/
theorem C20F_appended_at_depth (w : FDoc) (h : List Nat) (e : FElem) (d : Nat) (hd : w.depthAt h = some d) :
    e.render d <:+: (w.update (.append e) h).render := by
  cases h with
  | nil =>
    cases hd
    rw [C20F_order_root]
    exact List.infix_append' ..
  | cons i p =>
    obtain ⟨x, hx, ho⟩ := updateAt_occurs e i p w.body 0 d hd
    exact C20F_occurs_doc (w.update (.append e) (i :: p)) hx ho

theorem C20F_text_call (w : FDoc) (h : List Nat) (t : Str) (d : Nat) (hd : w.depthAt h = some d) :
    ∃ w', w.apply (.text h t) = .ok w' ∧ renderPara d t <:+: w'.render :=
  ⟨_, rfl, C20F_appended_at_depth w h (.para t) d hd⟩

theorem C20F_field_call (w : FDoc) (h : List Nat) (n t : Str) (d : Nat) (hd : w.depthAt h = some d) :
    ∃ w', w.apply (.field h n t) = .ok w' ∧ renderField d n t <:+: w'.render :=
  ⟨_, rfl, C20F_appended_at_depth w h (.field n t) d hd⟩

theorem C20F_list_call (w : FDoc) (h : List Nat) (en : Bool) (items : List Str) (d : Nat) (hd : w.depthAt h = some d) :
    ∃ w', w.apply (.list h en items) = .ok w' ∧ renderList d en items <:+: w'.render :=
  ⟨_, rfl, C20F_appended_at_depth w h (.list en items) d hd⟩

theorem C20F_directive_call (w : FDoc) (h : List Nat) (name : Str) (args : List Str) (d : Nat) (hd : w.depthAt h = some d) :
    ∃ w', w.apply (.directive h name args) = .ok w' ∧ renderDirHeading d name args <:+: w'.render := by
  refine ⟨_, rfl, ?_⟩
  have h1 := C20F_appended_at_depth w h (.directive name args [] []) d hd
  exact List.IsInfix.trans (C20F_dir_heading d name args [] []).isInfix h1

/-- non-vacuity: a paragraph in a directive in a section in a directive sits at depth 1, not 2 -/
example : FOccurs 1 (.para (lit "p")) 0
    (.directive (lit "a") [] [] [.sect 1 ['-'] (lit "S") [.directive (lit "b") [] [] [.para (lit "p")]]]) :=
  .inDir 0 (.sect 1 ['-'] (lit "S") [.directive (lit "b") [] [] [.para (lit "p")]]) _ _ _ _ (List.mem_singleton.2 rfl)
    (.inSect 1 (.directive (lit "b") [] [] [.para (lit "p")]) _ _ _ _ (List.mem_singleton.2 rfl)
      (.inDir 0 (.para (lit "p")) _ _ _ _ (List.mem_singleton.2 rfl) .here))

end Cminx
