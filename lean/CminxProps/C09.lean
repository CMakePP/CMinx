import CminxLemmas.SpecLemmas
import CminxProps.TAgg
/-!
# C09 — class entries reflect the `cpp_class` structure of the source

Read off the structural specification (`Item.spec`, `itemsSpec`, `CminxModel/Spec.lean`): a class is an
`Item.block` whose opener is `cpp_class`; its entry collects `Contrib.inner/ctors/members/attrs` of its own body,
evaluated in class context `.shown`.  A `cpp_member`/`cpp_constructor` declaration and the function/macro
definition that follows it form one `Item.decl`.  `methodOf` (the `Method` of a declaration + implementation)
is defined in `CminxLemmas/SpecEq.lean` and spelled out by `C09_method`.  Rendering is read off
`Entry.toElem`, `Method.toElem`, `Attr.toElem`, `methodFields` (`CminxModel/DocTypes.lean`).  The theorems hold for
every configuration under the stated "has an entry" hypotheses, which the default configuration satisfies
(`Or.inr rfl`); `C09_machine` transports them to the listener under default settings.
-/
namespace Cminx

/-- A class that is documented or shown by `include_undocumented_cpp_class`: one class entry — name = first
argument, bases = the remaining arguments as written, lists = what the body contributes in class context
`.shown` — followed by the body's own top-level entries (nested classes among them). -/
theorem C09_class_entry (cfg : Cfg) (ctx : ClsCtx) (doc : Option DocC) (o : Call) (body : List Item) (c : Call)
    (hn : o.lname = lit "cpp_class") (hincl : doc.isSome = true ∨ cfg.inclCppClass = true) :
    ((Item.block doc o body c).spec cfg ctx).top =
      .cls (o.singles.headD []) (docTextOf doc) (o.singles.drop 1) (itemsSpec cfg .shown body).inner
          (itemsSpec cfg .shown body).ctors (itemsSpec cfg .shown body).members (itemsSpec cfg .shown body).attrs ::
        (itemsSpec cfg .shown body).top := by
  rw [spec_block_class cfg ctx doc o body c hn, if_pos hincl]

/-- with the arguments named: `cpp_class(name base₁ …)` -/
theorem C09_class_entry_named (cfg : Cfg) (ctx : ClsCtx) (doc : Option DocC) (o : Call) (body : List Item) (c : Call)
    (name : Str) (supers : List Str) (hn : o.lname = lit "cpp_class") (hs : o.singles = name :: supers)
    (hincl : doc.isSome = true ∨ cfg.inclCppClass = true) :
    ((Item.block doc o body c).spec cfg ctx).top =
      .cls name (docTextOf doc) supers (itemsSpec cfg .shown body).inner
          (itemsSpec cfg .shown body).ctors (itemsSpec cfg .shown body).members (itemsSpec cfg .shown body).attrs ::
        (itemsSpec cfg .shown body).top := by
  rw [C09_class_entry cfg ctx doc o body c hn hincl, hs]; rfl

/-- A class item never passes constructors, methods or attributes on to the class around it: whatever is
declared between `cpp_class` and `cpp_end_class` lands in that innermost class only.  Towards an enclosing shown
class it contributes exactly its name (to the inner-class list) — if it has an entry itself. -/
theorem C09_innermost (cfg : Cfg) (ctx : ClsCtx) (doc : Option DocC) (o : Call) (body : List Item) (c : Call)
    (hn : o.lname = lit "cpp_class") :
    ((Item.block doc o body c).spec cfg ctx).ctors = [] ∧ ((Item.block doc o body c).spec cfg ctx).members = [] ∧
    ((Item.block doc o body c).spec cfg ctx).attrs = [] ∧
    ((Item.block doc o body c).spec cfg ctx).inner =
      if (doc.isSome || cfg.inclCppClass) && ctx = .shown then [o.singles.headD []] else [] := by
  rw [spec_block_class cfg ctx doc o body c hn]
  split <;> simp [*]

/-- source order inside a class: all four lists of `a ++ b` are those of `a` followed by those of `b` -/
theorem C09_source_order (cfg : Cfg) (ctx : ClsCtx) (a b : List Item) :
    (itemsSpec cfg ctx (a ++ b)).members = (itemsSpec cfg ctx a).members ++ (itemsSpec cfg ctx b).members ∧
    (itemsSpec cfg ctx (a ++ b)).ctors = (itemsSpec cfg ctx a).ctors ++ (itemsSpec cfg ctx b).ctors ∧
    (itemsSpec cfg ctx (a ++ b)).attrs = (itemsSpec cfg ctx a).attrs ++ (itemsSpec cfg ctx b).attrs ∧
    (itemsSpec cfg ctx (a ++ b)).inner = (itemsSpec cfg ctx a).inner ++ (itemsSpec cfg ctx b).inner := by
  rw [itemsSpec_append]; exact ⟨rfl, rfl, rfl, rfl⟩

/-- after `cpp_end_class` the enclosing context is back: the items following a class are evaluated in the
context `ctx` of the list the class sits in, not in the class's -/
theorem C09_after_end (cfg : Cfg) (ctx : ClsCtx) (doc : Option DocC) (o : Call) (body : List Item) (c : Call)
    (rest : List Item) :
    itemsSpec cfg ctx (.block doc o body c :: rest) =
      (Item.block doc o body c).spec cfg ctx ++ itemsSpec cfg ctx rest :=
  itemsSpec_cons cfg ctx _ rest

/-- A class nested in a class (both with an entry): the inner class is an entry of its own right after the
entries preceding it; the outer entry lists it by name among its inner classes, in source order, and the outer
constructor/method/attribute lists are those of `pre` and `post` only. -/
theorem C09_nested (cfg : Cfg) (ctx : ClsCtx) (doc idoc : Option DocC) (o c io ic : Call) (pre post ibody : List Item)
    (hn : o.lname = lit "cpp_class") (hincl : doc.isSome = true ∨ cfg.inclCppClass = true)
    (hin : io.lname = lit "cpp_class") (hiincl : idoc.isSome = true ∨ cfg.inclCppClass = true) :
    ((Item.block doc o (pre ++ .block idoc io ibody ic :: post) c).spec cfg ctx).top =
      .cls (o.singles.headD []) (docTextOf doc) (o.singles.drop 1)
          ((itemsSpec cfg .shown pre).inner ++ io.singles.headD [] :: (itemsSpec cfg .shown post).inner)
          ((itemsSpec cfg .shown pre).ctors ++ (itemsSpec cfg .shown post).ctors)
          ((itemsSpec cfg .shown pre).members ++ (itemsSpec cfg .shown post).members)
          ((itemsSpec cfg .shown pre).attrs ++ (itemsSpec cfg .shown post).attrs) ::
        ((itemsSpec cfg .shown pre).top ++
          .cls (io.singles.headD []) (docTextOf idoc) (io.singles.drop 1) (itemsSpec cfg .shown ibody).inner
              (itemsSpec cfg .shown ibody).ctors (itemsSpec cfg .shown ibody).members
              (itemsSpec cfg .shown ibody).attrs ::
            ((itemsSpec cfg .shown ibody).top ++ (itemsSpec cfg .shown post).top)) := by
  rw [C09_class_entry cfg ctx doc o _ c hn hincl, itemsSpec_append, itemsSpec_cons,
    spec_block_class cfg .shown idoc io ibody ic hin, if_pos hiincl]
  simp

/-- the `Method` recorded for a declaration and its implementing definition -/
theorem C09_method (cfg : Cfg) (doc : Option DocC) (d impl : Call) (isCtor : Bool) :
    methodOf cfg doc d impl isCtor =
      { name := d.singles.headD [], doc := docTextOf doc, parentClass := d.singles.getD 1 [],
        paramTypes := d.singles.drop 2, params := (impl.singles.map cfg.stripMember).drop 2,
        isCtor := isCtor, isMacro := impl.lname = lit "macro" } := rfl

/-- with the arguments named: `cpp_member(name cls ty₁ …)` followed by `function(fname self p₁ …)`: the parameter
names are the definition's arguments after the function name and `self`, each passed through the member strip
function, in order; the declared types are kept as written -/
theorem C09_method_named (cfg : Cfg) (doc : Option DocC) (d impl : Call) (isCtor : Bool)
    (name cls fname self : Str) (types ps : List Str)
    (hd : d.singles = name :: cls :: types) (hi : impl.singles = fname :: self :: ps) :
    methodOf cfg doc d impl isCtor =
      { name := name, doc := docTextOf doc, parentClass := cls, paramTypes := types,
        params := ps.map cfg.stripMember, isCtor := isCtor, isMacro := impl.lname = lit "macro" } := by
  simp [methodOf, hd, hi]

/-- a member declaration in a shown class (documented, or `include_undocumented_cpp_member` on): exactly one
`Method` in the method list, not a constructor; macro flag iff the implementing definition is a macro -/
theorem C09_member (cfg : Cfg) (doc : Option DocC) (d impl : Call) (body : List Item) (c : Call)
    (hn : d.lname = lit "cpp_member") (hincl : doc.isSome = true ∨ cfg.inclCppMember = true) :
    (Item.decl doc d impl body c).spec cfg .shown =
      { members := [methodOf cfg doc d impl false] } ++ itemsSpec cfg .shown body := by
  rw [spec_decl_member cfg .shown doc d impl body c false hn, if_pos ⟨rfl, hincl⟩]
  rfl

/-- likewise a constructor declaration: exactly one `Method` in the constructor list -/
theorem C09_ctor (cfg : Cfg) (doc : Option DocC) (d impl : Call) (body : List Item) (c : Call)
    (hn : d.lname = lit "cpp_constructor") (hincl : doc.isSome = true ∨ cfg.inclCppConstructor = true) :
    (Item.decl doc d impl body c).spec cfg .shown =
      { ctors := [methodOf cfg doc d impl true] } ++ itemsSpec cfg .shown body := by
  rw [spec_decl_member cfg .shown doc d impl body c true hn, if_pos ⟨rfl, hincl⟩]
  rfl

/-- `cpp_attr(cls name [default])` in a shown class: exactly one attribute; it has a default value iff a third
argument is written -/
theorem C09_attr (cfg : Cfg) (doc : Option DocC) (call : Call) (cls name : Str) (dflt : Option Str) (more : List Str)
    (hn : call.lname = lit "cpp_attr") (hincl : doc.isSome = true ∨ cfg.inclCppAttr = true)
    (hs : call.singles = cls :: name :: (dflt.toList ++ (if dflt.isSome then more else []))) :
    (Item.cmd doc call).spec cfg .shown =
      { attrs := [{ name := name, doc := docTextOf doc, parentClass := cls, dflt := dflt }] } := by
  rw [spec_cmd_attr cfg .shown doc call hn, if_pos ⟨rfl, hincl⟩]
  cases dflt <;> simp [hs]

/-- blocks that are neither definitions nor classes (`if`, `foreach`, `while`) are transparent for membership:
a member declared inside one belongs to the class around the block -/
theorem C09_block_transparent (cfg : Cfg) (ctx : ClsCtx) (o : Call) (body : List Item) (c : Call)
    (h1 : o.lname ≠ lit "function") (h2 : o.lname ≠ lit "macro") (h3 : o.lname ≠ lit "cpp_class") :
    (Item.block none o body c).spec cfg ctx = itemsSpec cfg ctx body := by
  rw [spec_block_other cfg ctx none o body c h1 h2 h3]
  simp

/-- A method is a `py:method` directive with the signature `name(p₁, p₂, …)` — followed by `[, ...]` inside the
parentheses iff `args` is among the declared types — a macro note iff the implementing definition is a macro, the
doc, and the parameter fields. -/
theorem C09_method_render (m : Method) :
    m.toElem =
      .directive (lit "py:method")
        [m.name ++ lit "(" ++ joinWith (lit ", ") m.params ++
          (if lit "args" ∈ m.paramTypes then lit "[, ...]" else []) ++ lit ")"] []
        ((if m.isMacro then [Elem.directive (lit "note") [methodMacroNote] [] []] else []) ++
          [.para m.doc] ++ methodFields m.doc m.paramTypes m.params) := by
  rw [lit_ofList ['('], lit_ofList [')'], lit_ofList [',', ' '], Method.toElem]
  simp

/-- the parameter fields pair declared types and parameter names position-wise, up to the shorter list; each
pair yields a `:param p:` and a `:type p: ty` field unless the doc already contains such a field -/
theorem C09_method_fields (doc : Str) (tys ps : List Str) :
    methodFields doc tys ps =
      (tys.zip ps).flatMap (fun tp =>
        (if isInfix (lit ":param " ++ tp.2 ++ [':']) doc then [] else [Elem.field (lit "param " ++ tp.2) []]) ++
        (if isInfix (lit ":type " ++ tp.2 ++ [':']) doc then [] else [Elem.field (lit "type " ++ tp.2) tp.1])) := by
  induction tys generalizing ps with
  | nil => simp [methodFields]
  | cons ty tys ih =>
    cases ps with
    | nil => simp [methodFields]
    | cons p ps => simp [methodFields, ih]

theorem C09_method_fields_length (doc : Str) (tys ps : List Str) :
    (methodFields doc tys ps).length ≤ 2 * min tys.length ps.length := by
  induction tys generalizing ps with
  | nil => simp [methodFields]
  | cons ty tys ih =>
    cases ps with
    | nil => simp [methodFields]
    | cons p ps =>
      have := ih ps
      simp only [methodFields, List.length_append, List.length_cons]
      split <;> split <;> simp <;> omega

/-- when the doc mentions none of the fields: exactly `:param pᵢ:` / `:type pᵢ: tyᵢ`, in order -/
theorem C09_method_fields_plain (doc : Str) (tys ps : List Str)
    (h : ∀ p ∈ ps, isInfix (lit ":param " ++ p ++ [':']) doc = false ∧ isInfix (lit ":type " ++ p ++ [':']) doc = false) :
    methodFields doc tys ps =
      (tys.zip ps).flatMap (fun tp => [Elem.field (lit "param " ++ tp.2) [], Elem.field (lit "type " ++ tp.2) tp.1]) := by
  rw [C09_method_fields, List.flatMap_def, List.flatMap_def]
  refine congrArg _ (List.map_congr_left fun tp htp => ?_)
  obtain ⟨h1, h2⟩ := h tp.2 (List.of_mem_zip htp).2
  rw [if_neg (by rw [h1]; simp), if_neg (by rw [h2]; simp)]
  rfl

/-- an attribute is a `py:attribute` directive with a `:value:` option iff it has a default -/
theorem C09_attr_render (a : Attr) :
    a.toElem =
      .directive (lit "py:attribute") [a.name]
        (match a.dflt with | some v => [(lit "value", v)] | none => []) [.para a.doc] := rfl

/-- A class is a `py:class` directive: a `Bases:` paragraph listing the bases as written, in order, iff there
are any; the doc; then the constructor, method and attribute sections (each only if non-empty, each in list
order) and the inner-class list. -/
theorem C09_class_render (name doc : Str) (supers inner : List Str) (ctors members : List Method) (attrs : List Attr) :
    (Entry.cls name doc supers inner ctors members attrs).toElem =
      .directive (lit "py:class") [name] []
        ((match supers with
          | [] => []
          | _ :: _ => [Elem.para (lit "Bases: " ++ joinWith (lit ", ") (supers.map (interpreted (lit "class"))) ++ lit "\n")]) ++
         [.para doc] ++
         (match ctors with
          | [] => []
          | _ :: _ => Elem.para (lit "**Additional Constructors**") :: ctors.map Method.toElem) ++
         (match members with
          | [] => []
          | _ :: _ => Elem.para (lit "**Methods**") :: members.map Method.toElem) ++
         (match attrs with
          | [] => []
          | _ :: _ => Elem.para (lit "**Attributes**") :: attrs.map Attr.toElem) ++
         (match inner with
          | [] => []
          | _ :: _ => [.para (lit "**Inner classes**"), .list false (inner.map (interpreted (lit "class")))])) := by
  -- the two literals the definition spells as characters; then each of the 32 shapes holds by unfolding
  rw [lit_ofList [',', ' '], lit_ofList ['\n']]
  cases supers <;> cases ctors <;> cases members <;> cases attrs <;> cases inner <;> rfl

/-- base classes are listed as written: each base `b` appears as ``:class:`b` ``, comma-separated, in order -/
theorem C09_bases (name doc : Str) (b : Str) (bs inner : List Str) (ctors members : List Method) (attrs : List Attr) :
    ∃ rest, (Entry.cls name doc (b :: bs) inner ctors members attrs).toElem =
      .directive (lit "py:class") [name] []
        (.para (lit "Bases: " ++ joinWith (lit ", ") ((b :: bs).map (fun s => lit ":class:`" ++ s ++ lit "`")) ++ lit "\n") ::
          .para doc :: rest) := by
  have hi : interpreted (lit "class") = fun s => lit ":class:`" ++ s ++ lit "`" := by
    funext s
    rw [interpreted, lit_ofList [':', 'c', 'l', 'a', 's', 's', ':', '`'], lit_ofList ['`'],
      lit_ofList ['c', 'l', 'a', 's', 's']]
    simp
  rw [Entry.toElem, hi, lit_ofList [',', ' '], lit_ofList ['\n']]
  exact ⟨_, rfl⟩

/-- Through `T_agg` with the default configuration: the listener's `documented` is `m.entries {}`, so a top-level
class of a well-formed module is recorded as the class entry `C09_class_entry` describes, followed by the
entries of its body. -/
theorem C09_machine (m : Module) (hwf : itemsWf false m.items = true)
    (pre post : List Item) (doc : Option DocC) (o : Call) (body : List Item) (c : Call)
    (hitems : m.items = pre ++ .block doc o body c :: post) (hn : o.lname = lit "cpp_class") :
    ∃ st front back, aggregate {} m.events = .ok st ∧ st.errors = 0 ∧
      st.documented = front ++
        .cls (o.singles.headD []) (docTextOf doc) (o.singles.drop 1) (itemsSpec {} .shown body).inner
          (itemsSpec {} .shown body).ctors (itemsSpec {} .shown body).members (itemsSpec {} .shown body).attrs ::
        ((itemsSpec {} .shown body).top ++ back) := by
  obtain ⟨st, h1, h2, h3, _⟩ := T_agg {} m hwf (Or.inl rfl)
  obtain ⟨front, hf⟩ := Module.entries_of_items {} hitems
  refine ⟨st, front, (itemsSpec {} .none post).top, h1, h3, ?_⟩
  rw [h2, hf, C09_class_entry {} .none doc o body c hn (Or.inr rfl)]
  simp

/-- A member/constructor declaration in a shown class takes the awaiting-definition slot for itself, whatever was left
    pending there (a declaration that was never implemented, known finding K8): the slot afterwards names this
    declaration — its class entry, its kind and its position in the member list — and the right-hand side does not
    mention the earlier content of the slot.  With `C03_documented_impl_step`/`step` this is why a declaration directly
    followed by its definition is always linked to that definition (the `adjacent-pairs-only` clause of the C09
    oracle).  Stated for any `cmd : Cmd`; `processCppMember_eq` (`AggStep.lean`) gives the whole state for the command
    of a `Call`. -/
theorem C09_decl_takes_slot (isCtor : Bool) (st : AggState) (cmd : Cmd) (doc name parent : Str) (types : List Str)
    (h : cmd.singles = name :: parent :: types) (ci : Nat) (rest : List (Option Nat)) (hc : st.classStack = some ci :: rest) :
    (processCppMember isCtor st cmd doc).awaiting =
      some (.method ci isCtor (methodCount isCtor (st.documented.getD ci default))) ∧
    (processCppMember isCtor st cmd doc).classStack = st.classStack ∧
    (processCppMember isCtor st cmd doc).defStack = st.defStack := by
  unfold processCppMember
  simp [h, hc]

theorem C09_decl_ignores_pending (isCtor : Bool) (st : AggState) (a : Option AwaitRef) (cmd : Cmd) (doc name parent : Str) (types : List Str)
    (h : cmd.singles = name :: parent :: types) (ci : Nat) (rest : List (Option Nat)) (hc : st.classStack = some ci :: rest) :
    processCppMember isCtor { st with awaiting := a } cmd doc = processCppMember isCtor st cmd doc := by
  unfold processCppMember
  simp [h, hc]

/-! ## non-vacuity -/

/-- outer class `A : Base` with a constructor, then an inner class `B` with its own member and attribute, then —
after `B`'s `cpp_end_class` — a member of `A` implemented by a macro -/
def exNested : Item :=
  .block (some (mkDoc "" ["Outer."])) (mkCall "cpp_class" ["A", "Base"])
    [ .decl none (mkCall "cpp_constructor" ["CTOR", "A", "int"]) (mkCall "function" ["_c", "self", "_n"]) []
        (mkCall "endfunction" []),
      .block none (mkCall "CPP_CLASS" ["B"])
        [ .decl none (mkCall "cpp_member" ["inner_go", "B", "str", "args"]) (mkCall "function" ["_g", "self", "s"]) []
            (mkCall "endfunction" []),
          .cmd none (mkCall "cpp_attr" ["B", "size"]) ]
        (mkCall "cpp_end_class" []),
      .decl none (mkCall "cpp_member" ["outer_go", "A"]) (mkCall "macro" ["_o", "self"]) []
        (mkCall "endmacro" []) ]
    (mkCall "cpp_end_class" [])

example : (exNested.spec { stripMember := fun s => s.filter (· ≠ '_') } .none).top =
    [ .cls (lit "A") (docTextOf (some (mkDoc "" ["Outer."]))) [lit "Base"] [lit "B"]
        [{ name := lit "CTOR", doc := [], parentClass := lit "A", paramTypes := [lit "int"], params := [lit "n"],
           isCtor := true, isMacro := false }]
        [{ name := lit "outer_go", doc := [], parentClass := lit "A", paramTypes := [], params := [],
           isCtor := false, isMacro := true }]
        [],
      .cls (lit "B") [] [] []
        []
        [{ name := lit "inner_go", doc := [], parentClass := lit "B", paramTypes := [lit "str", lit "args"],
           params := [lit "s"], isCtor := false, isMacro := false }]
        [{ name := lit "size", doc := [], parentClass := lit "B", dflt := none }] ] := by
  refine Eq.trans (C09_nested _ .none (some (mkDoc "" ["Outer."])) none (mkCall "cpp_class" ["A", "Base"])
    (mkCall "cpp_end_class" []) (mkCall "CPP_CLASS" ["B"]) (mkCall "cpp_end_class" [])
    [ .decl none (mkCall "cpp_constructor" ["CTOR", "A", "int"]) (mkCall "function" ["_c", "self", "_n"]) []
        (mkCall "endfunction" []) ]
    [ .decl none (mkCall "cpp_member" ["outer_go", "A"]) (mkCall "macro" ["_o", "self"]) []
        (mkCall "endmacro" []) ] _ (by decide +kernel) (Or.inl rfl) (by decide +kernel) (Or.inr rfl)) ?_
  decide +kernel

/-- the variadic member renders as `inner_go(s[, ...])` with one parameter/type pair (the shorter list wins) -/
example : (Method.toElem
      { name := lit "inner_go", doc := [], parentClass := lit "B", paramTypes := [lit "str", lit "args"],
        params := [lit "s"], isCtor := false, isMacro := true }) =
    .directive (lit "py:method") [lit "inner_go(s[, ...])"] []
      [.directive (lit "note") [methodMacroNote] [] [], .para [],
       .field (lit "param s") [], .field (lit "type s") (lit "str")] := by
  rw [C09_method_render]
  simp [methodFields, lit]
  rfl

example : (Item.cmd none (mkCall "cpp_attr" ["K", "color", "red"])).spec {} .shown =
    { attrs := [{ name := lit "color", doc := [], parentClass := lit "K", dflt := some (lit "red") }] } :=
  C09_attr {} none _ (lit "K") (lit "color") (some (lit "red")) [] (by decide +kernel) (Or.inr rfl) (by decide +kernel)

end Cminx
