import CminxLemmas.SpecLemmas
import CminxProps.TAgg
/-!
# C08 — `include_undocumented_*` options only affect commands without a doccomment

Read off the structural specification (`Item.spec`, `itemsSpec`, `CminxModel/Spec.lean`) for **every**
configuration `cfg` (all 2^10 flag combinations, any trigger string and strip functions).

`Cfg.allOff cfg` / `Cfg.allOn cfg` is `cfg` with all ten `include_undocumented_*` flags `false` / `true`; trigger
string and strip functions unchanged.  Under `allOff` exactly the doccomment-carrying commands have entries
(`C08_allOff_documented_only`, `C08_documented_kept_cmd`), so `itemsSpec cfg.allOff` is "the entries that stem
from doccomment-carrying commands".  The embedding order (`Entry.embeds`, `TopEmbeds`, `ContribEmbeds`) is defined in
`CminxLemmas/SpecLemmas.lean`, `asDefinition` in `CminxLemmas/SpecEq.lean`.

The listener state machine deviates from the specification in the K1 region (a *documented* `cpp_class` with
`include_undocumented_cpp_class = false`, see `T_agg_K1_counterexample` in `CminxProps/TAgg.lean`), so the
transport theorem is `C08_machine_partial`; `C08_K1_counterexample` shows that the guard is needed.
-/
namespace Cminx

/-! ## no flag combination removes or alters the entry of a doccomment-carrying command -/

/-- **Main theorem.**  For every configuration, every item list and every pair of class contexts with
`ctx₁ = .shown → ctx₂ = .shown`: what the doccomment-carrying commands contribute (`cfg.allOff`, context `ctx₁`)
embeds into what the list contributes under `cfg` in context `ctx₂` — every such top-level entry is present, in
order, identical except that a class entry may list additional (undocumented) members; the documented
members/constructors/attributes/inner classes handed to a shown enclosing class are handed to it under `cfg` too.
(The pairs `(.hidden, .shown)` and `(.none, _)` arise inside the induction: an undocumented class is hidden
under `allOff` and may be shown under `cfg`.) -/
theorem C08_documented_embed (cfg : Cfg) (items : List Item) (ctx₁ ctx₂ : ClsCtx)
    (hctx : ctx₁ = .shown → ctx₂ = .shown) :
    TopEmbeds (itemsSpec cfg.allOff ctx₁ items).top (itemsSpec cfg ctx₂ items).top ∧
    (itemsSpec cfg.allOff ctx₁ items).inner.Sublist (itemsSpec cfg ctx₂ items).inner ∧
    (itemsSpec cfg.allOff ctx₁ items).ctors.Sublist (itemsSpec cfg ctx₂ items).ctors ∧
    (itemsSpec cfg.allOff ctx₁ items).members.Sublist (itemsSpec cfg ctx₂ items).members ∧
    (itemsSpec cfg.allOff ctx₁ items).attrs.Sublist (itemsSpec cfg ctx₂ items).attrs :=
  let h := itemsSpec_embed cfg items ctx₁ ctx₂ hctx
  ⟨h.top, h.inner, h.ctors, h.members, h.attrs⟩

theorem C08_documented_embed_ctx (cfg : Cfg) (items : List Item) (ctx : ClsCtx) :
    ContribEmbeds (itemsSpec cfg.allOff ctx items) (itemsSpec cfg ctx items) :=
  itemsSpec_embed cfg items ctx ctx (fun h => h)

theorem C08_documented_embed_item (cfg : Cfg) (it : Item) (ctx₁ ctx₂ : ClsCtx) (hctx : ctx₁ = .shown → ctx₂ = .shown) :
    ContribEmbeds (it.spec cfg.allOff ctx₁) (it.spec cfg ctx₂) :=
  Item.spec_embed cfg it ctx₁ ctx₂ hctx

/-- …and the same entries embed into the output under the default flag values (all on): every entry of a
doccomment-carrying command present under `cfg` is the one present under default settings -/
theorem C08_documented_embed_default (cfg : Cfg) (items : List Item) (ctx : ClsCtx) :
    ContribEmbeds (itemsSpec cfg.allOff ctx items) (itemsSpec cfg ctx items) ∧
    ContribEmbeds (itemsSpec cfg.allOff ctx items) (itemsSpec cfg.allOn ctx items) :=
  ⟨C08_documented_embed_ctx cfg items ctx, by
    have := C08_documented_embed_ctx cfg.allOn items ctx
    rwa [Cfg.allOn_allOff] at this⟩

/-- whole modules: the module entry is unaffected by the flags -/
theorem C08_module_embed (cfg : Cfg) (m : Module) : TopEmbeds (m.entries cfg.allOff) (m.entries cfg) := by
  rw [Module.entries, Module.entries]
  exact TopEmbeds.append (TopEmbeds.refl _) (itemsSpec_embed cfg m.items .none .none (fun h => h)).top

theorem C08_embeds_facts :
    (∀ a b, TopEmbeds a b → a.length ≤ b.length) ∧ (∀ e : Entry, e.embeds e) ∧
    (∀ e e' : Entry, (∀ n d s i c m a, e ≠ .cls n d s i c m a) → e.embeds e' → e = e') := by
  refine ⟨fun _ _ h => h.length_le, Entry.embeds_refl, ?_⟩
  intro e e' hne h
  cases e <;> first | exact h | exact absurd rfl (hne _ _ _ _ _ _ _)

/-! ## under `allOff` only doccomment-carrying commands have entries; those are flag-independent -/

/-- With all flags off, an item without a doccomment contributes nothing of its own: a single command nothing at
all; a block or a declaration+implementation only what its body contributes (the body of an undocumented class
is read in context `.hidden`, so nothing reaches a class). -/
theorem C08_allOff_documented_only (cfg : Cfg) (ctx : ClsCtx) :
    (∀ call, (Item.cmd none call).spec cfg.allOff ctx = {}) ∧
    (∀ o body c, (Item.block none o body c).spec cfg.allOff ctx =
      if o.lname = lit "cpp_class" then { top := (itemsSpec cfg.allOff .hidden body).top }
      else itemsSpec cfg.allOff ctx body) ∧
    (∀ d impl body c, (Item.decl none d impl body c).spec cfg.allOff ctx = itemsSpec cfg.allOff ctx body) ∧
    (∀ d, (Item.dangling d).spec cfg.allOff ctx = {}) := by
  refine ⟨spec_cmd_allOff cfg ctx none, fun o body c => ?_, fun d impl body c => ?_, spec_dangling _ ctx⟩
  · by_cases h : o.lname = lit "cpp_class" <;> simp [Item.spec, h, Cfg.allOff]
  · simp [Item.spec, Cfg.allOff]

/-- a single command that carries a doccomment contributes the same under every flag combination (same class
context) -/
theorem C08_documented_kept_cmd (cfg : Cfg) (ctx : ClsCtx) (d : DocC) (call : Call) :
    (Item.cmd (some d) call).spec cfg ctx = (Item.cmd (some d) call).spec cfg.allOff ctx :=
  (spec_cmd_allOff cfg ctx (some d) call).symm

/-- a documented function or macro definition: the same entry under every flag combination, followed by the
body's entries -/
theorem C08_documented_kept_def (cfg : Cfg) (ctx : ClsCtx) (d : DocC) (o : Call) (body : List Item) (c : Call)
    (isMacro : Bool) (hn : o.lname = if isMacro then lit "macro" else lit "function") :
    (Item.block (some d) o body c).spec cfg ctx =
      { top := [defEntry cfg.allOff isMacro (some d) o body] } ++ itemsSpec cfg ctx body := by
  rw [spec_block_def cfg ctx _ o body c isMacro hn]
  simp [defEntry_allOff]

/-- a documented class is shown under every flag combination; its lists are those of its body in context `.shown` -/
theorem C08_documented_kept_class (cfg : Cfg) (ctx : ClsCtx) (d : DocC) (o : Call) (body : List Item) (c : Call)
    (hn : o.lname = lit "cpp_class") :
    ((Item.block (some d) o body c).spec cfg ctx).top =
      .cls (o.singles.headD []) (docTextOf (some d)) (o.singles.drop 1) (itemsSpec cfg .shown body).inner
          (itemsSpec cfg .shown body).ctors (itemsSpec cfg .shown body).members (itemsSpec cfg .shown body).attrs ::
        (itemsSpec cfg .shown body).top := by
  rw [spec_block_class cfg ctx (some d) o body c hn]
  rfl

/-- a documented test/section declaration: the same entry under every flag combination -/
theorem C08_documented_kept_test (cfg : Cfg) (ctx : ClsCtx) (dc : DocC) (d impl : Call) (body : List Item) (c : Call)
    (isSection : Bool) (hn : d.lname = if isSection then lit "ct_add_section" else lit "ct_add_test") :
    (Item.decl (some dc) d impl body c).spec cfg ctx =
      { top := [.test isSection (nameOf d.singles).1 (docTextOf (some dc)) (d.singles.contains (lit "EXPECTFAIL"))
                  (impl.singles.drop 2) (impl.lname = lit "macro")] } ++ itemsSpec cfg ctx body := by
  rw [spec_decl_test cfg ctx _ d impl body c isSection hn]
  rfl

/-- a documented member/constructor of a shown class: the same `Method`, in its class, under every flag
combination ("members are shown only if their class is shown": the context must be `.shown`) -/
theorem C08_documented_kept_member (cfg : Cfg) (dc : DocC) (d impl : Call) (body : List Item) (c : Call)
    (isCtor : Bool) (hn : d.lname = if isCtor then lit "cpp_constructor" else lit "cpp_member") :
    (Item.decl (some dc) d impl body c).spec cfg .shown =
      (if isCtor then { ctors := [methodOf cfg.allOff (some dc) d impl true] }
       else { members := [methodOf cfg.allOff (some dc) d impl false] }) ++ itemsSpec cfg .shown body := by
  rw [spec_decl_member cfg .shown _ d impl body c isCtor hn]
  simp [methodOf_allOff]

/-! ## switching option K off removes the entries of the K-commands without a doccomment -/

/-- the contribution of an implementing definition whose declaration has no entry: an ordinary undocumented
function/macro definition, subject to `include_undocumented_function` / `_macro` -/
theorem C08_asDefinition (cfg : Cfg) (impl : Call) (body : List Item) :
    asDefinition cfg impl body =
      if (if impl.lname = lit "macro" then cfg.inclMacro else cfg.inclFunction) then
        { top := [defEntry cfg (impl.lname = lit "macro") none impl body] } else {} := rfl

/-- undocumented `function` / `macro`: own entry iff the flag is on; the body is read either way -/
theorem C08_removed_def (cfg : Cfg) (ctx : ClsCtx) (o : Call) (body : List Item) (c : Call)
    (isMacro : Bool) (hn : o.lname = if isMacro then lit "macro" else lit "function") :
    (Item.block none o body c).spec cfg ctx =
      (if (if isMacro then cfg.inclMacro else cfg.inclFunction) then { top := [defEntry cfg isMacro none o body] }
       else {}) ++ itemsSpec cfg ctx body := by
  rw [spec_block_def cfg ctx none o body c isMacro hn]
  simp

/-- undocumented `option`: entry iff `include_undocumented_option` -/
theorem C08_removed_option (cfg : Cfg) (ctx : ClsCtx) (call : Call) (hn : call.lname = lit "option") :
    (Item.cmd none call).spec cfg ctx =
      if cfg.inclOption then
        { top := [.opt (call.singles.headD []) [] (call.singles.getD 1 []) call.singles[2]?] } else {} := by
  rw [spec_cmd_option cfg ctx none call hn]
  simp [docTextOf]

/-- undocumented `add_test`: entry iff `include_undocumented_add_test` -/
theorem C08_removed_add_test (cfg : Cfg) (ctx : ClsCtx) (call : Call) (hn : call.lname = lit "add_test") :
    (Item.cmd none call).spec cfg ctx =
      if cfg.inclAddTest then { top := [.ctest (nameOf call.allTexts).1 [] (ctestParams call.allTexts)] } else {} := by
  rw [spec_cmd_add_test cfg ctx none call hn]
  simp [docTextOf]

/-- undocumented `cpp_attr`: listed iff `include_undocumented_cpp_attr` and the innermost class is shown -/
theorem C08_removed_attr (cfg : Cfg) (ctx : ClsCtx) (call : Call) (hn : call.lname = lit "cpp_attr") :
    (Item.cmd none call).spec cfg ctx =
      if ctx = .shown ∧ cfg.inclCppAttr = true then
        { attrs := [{ name := call.singles.getD 1 [], doc := [], parentClass := call.singles.headD [],
                      dflt := call.singles[2]? }] } else {} := by
  rw [spec_cmd_attr cfg ctx none call hn]
  simp [docTextOf]

/-- undocumented `set` and undocumented commands of any other kind: never an entry, whatever the flags -/
theorem C08_removed_never (cfg : Cfg) (ctx : ClsCtx) (call : Call)
    (h2 : call.lname ≠ lit "option") (h3 : call.lname ≠ lit "add_test") (h4 : call.lname ≠ lit "cpp_attr") :
    (Item.cmd none call).spec cfg ctx = {} := by
  simp [Item.spec, h2, h3, h4]

/-- undocumented `cpp_class`: shown iff `include_undocumented_cpp_class`; when hidden, its body is read in context
`.hidden`: only top-level entries survive, no member reaches any class -/
theorem C08_removed_class (cfg : Cfg) (ctx : ClsCtx) (o : Call) (body : List Item) (c : Call)
    (hn : o.lname = lit "cpp_class") :
    (Item.block none o body c).spec cfg ctx =
      if cfg.inclCppClass then
        { top := .cls (o.singles.headD []) [] (o.singles.drop 1) (itemsSpec cfg .shown body).inner
                   (itemsSpec cfg .shown body).ctors (itemsSpec cfg .shown body).members
                   (itemsSpec cfg .shown body).attrs :: (itemsSpec cfg .shown body).top,
          inner := if ctx = .shown then [o.singles.headD []] else [] }
      else { top := (itemsSpec cfg .hidden body).top } := by
  rw [spec_block_class cfg ctx none o body c hn]
  simp [docTextOf]

/-- undocumented `ct_add_test` / `ct_add_section`: test entry iff the flag is on; otherwise the implementing
definition is an ordinary definition -/
theorem C08_removed_test (cfg : Cfg) (ctx : ClsCtx) (d impl : Call) (body : List Item) (c : Call)
    (isSection : Bool) (hn : d.lname = if isSection then lit "ct_add_section" else lit "ct_add_test") :
    (Item.decl none d impl body c).spec cfg ctx =
      (if (if isSection then cfg.inclCtAddSection else cfg.inclCtAddTest) then
        { top := [.test isSection (nameOf d.singles).1 [] (d.singles.contains (lit "EXPECTFAIL"))
                    (impl.singles.drop 2) (impl.lname = lit "macro")] }
       else asDefinition cfg impl body) ++ itemsSpec cfg ctx body := by
  rw [spec_decl_test cfg ctx none d impl body c isSection hn]
  simp [docTextOf]

/-- undocumented `cpp_member` / `cpp_constructor`: listed in its class iff the flag is on and the innermost class is
shown; otherwise the implementing definition is an ordinary definition -/
theorem C08_removed_member (cfg : Cfg) (ctx : ClsCtx) (d impl : Call) (body : List Item) (c : Call)
    (isCtor : Bool) (hn : d.lname = if isCtor then lit "cpp_constructor" else lit "cpp_member") :
    (Item.decl none d impl body c).spec cfg ctx =
      (if ctx = .shown ∧ (if isCtor then cfg.inclCppConstructor else cfg.inclCppMember) = true then
        (if isCtor then { ctors := [methodOf cfg none d impl true] }
         else { members := [methodOf cfg none d impl false] })
       else asDefinition cfg impl body) ++ itemsSpec cfg ctx body := by
  rw [spec_decl_member cfg ctx none d impl body c isCtor hn]
  simp

/-- "members are shown only if their class is shown": in a context other than `.shown` (file level, or inside a
class that has no entry) no item list hands anything to a class, under any configuration -/
theorem C08_hidden_no_members (cfg : Cfg) (ctx : ClsCtx) (hctx : ctx ≠ .shown) (items : List Item) :
    (itemsSpec cfg ctx items).inner = [] ∧ (itemsSpec cfg ctx items).ctors = [] ∧
    (itemsSpec cfg ctx items).members = [] ∧ (itemsSpec cfg ctx items).attrs = [] :=
  itemsSpec_noClassPart cfg ctx hctx items

/-- all kinds together: an item without a doccomment contributes an entry of its own iff the flag of its kind is on
(members, constructors and attributes additionally iff the innermost class is shown); a declaration without an
entry leaves its implementing definition to the function/macro flag -/
theorem C08_removed (cfg : Cfg) (ctx : ClsCtx) :
    (∀ o body c (isMacro : Bool), o.lname = (if isMacro then lit "macro" else lit "function") →
      (Item.block none o body c).spec cfg ctx =
        (if (if isMacro then cfg.inclMacro else cfg.inclFunction) then { top := [defEntry cfg isMacro none o body] }
         else {}) ++ itemsSpec cfg ctx body) ∧
    (∀ call, call.lname = lit "option" →
      (Item.cmd none call).spec cfg ctx =
        if cfg.inclOption then
          { top := [.opt (call.singles.headD []) [] (call.singles.getD 1 []) call.singles[2]?] } else {}) ∧
    (∀ call, call.lname = lit "add_test" →
      (Item.cmd none call).spec cfg ctx =
        if cfg.inclAddTest then { top := [.ctest (nameOf call.allTexts).1 [] (ctestParams call.allTexts)] } else {}) ∧
    (∀ call, call.lname = lit "cpp_attr" →
      (Item.cmd none call).spec cfg ctx =
        if ctx = .shown ∧ cfg.inclCppAttr = true then
          { attrs := [{ name := call.singles.getD 1 [], doc := [], parentClass := call.singles.headD [],
                        dflt := call.singles[2]? }] } else {}) ∧
    (∀ o body c, o.lname = lit "cpp_class" →
      (Item.block none o body c).spec cfg ctx =
        if cfg.inclCppClass then
          { top := .cls (o.singles.headD []) [] (o.singles.drop 1) (itemsSpec cfg .shown body).inner
                     (itemsSpec cfg .shown body).ctors (itemsSpec cfg .shown body).members
                     (itemsSpec cfg .shown body).attrs :: (itemsSpec cfg .shown body).top,
            inner := if ctx = .shown then [o.singles.headD []] else [] }
        else { top := (itemsSpec cfg .hidden body).top }) ∧
    (∀ d impl body c (isSection : Bool), d.lname = (if isSection then lit "ct_add_section" else lit "ct_add_test") →
      (Item.decl none d impl body c).spec cfg ctx =
        (if (if isSection then cfg.inclCtAddSection else cfg.inclCtAddTest) then
          { top := [.test isSection (nameOf d.singles).1 [] (d.singles.contains (lit "EXPECTFAIL"))
                      (impl.singles.drop 2) (impl.lname = lit "macro")] }
         else asDefinition cfg impl body) ++ itemsSpec cfg ctx body) ∧
    (∀ d impl body c (isCtor : Bool), d.lname = (if isCtor then lit "cpp_constructor" else lit "cpp_member") →
      (Item.decl none d impl body c).spec cfg ctx =
        (if ctx = .shown ∧ (if isCtor then cfg.inclCppConstructor else cfg.inclCppMember) = true then
          (if isCtor then { ctors := [methodOf cfg none d impl true] }
           else { members := [methodOf cfg none d impl false] })
         else asDefinition cfg impl body) ++ itemsSpec cfg ctx body) ∧
    (∀ call, call.lname ≠ lit "option" → call.lname ≠ lit "add_test" → call.lname ≠ lit "cpp_attr" →
      (Item.cmd none call).spec cfg ctx = {}) :=
  ⟨C08_removed_def cfg ctx, C08_removed_option cfg ctx, C08_removed_add_test cfg ctx, C08_removed_attr cfg ctx,
   C08_removed_class cfg ctx, C08_removed_test cfg ctx, C08_removed_member cfg ctx, C08_removed_never cfg ctx⟩

/-- Through `T_agg`, **outside the K1 region** (hence `_partial`; see `T_agg_K1_counterexample`): for a well-formed
module and a configuration with `include_undocumented_cpp_class` on or no documented class in the module, the
listener ends normally under `cfg` and under the all-on configuration, and both `documented` lists embed the
entries of the doccomment-carrying commands (`m.entries cfg.allOff`). -/
theorem C08_machine_partial (cfg : Cfg) (m : Module) (hwf : itemsWf false m.items = true)
    (hk1 : cfg.inclCppClass = true ∨ itemsHaveDocumentedClass m.items = false) :
    ∃ st stOn, aggregate cfg m.events = .ok st ∧ aggregate cfg.allOn m.events = .ok stOn ∧
      st.errors = 0 ∧ stOn.errors = 0 ∧
      TopEmbeds (m.entries cfg.allOff) st.documented ∧ TopEmbeds (m.entries cfg.allOff) stOn.documented := by
  obtain ⟨st, h1, h2, h3, _⟩ := T_agg cfg m hwf hk1
  obtain ⟨stOn, h1', h2', h3', _⟩ := T_agg cfg.allOn m hwf (Or.inl rfl)
  refine ⟨st, stOn, h1, h1', h3, h3', ?_, ?_⟩
  · rw [h2]; exact C08_module_embed cfg m
  · rw [h2', ← Cfg.allOn_allOff]; exact C08_module_embed cfg.allOn m

/-- K1: the guard of `C08_machine_partial` cannot be dropped.  For the well-formed module `k1Module` (a documented
class with a documented and an undocumented attribute) and `include_undocumented_cpp_class = false` the listener
records the class without its documented attribute: the documented entries do *not* embed. -/
theorem C08_K1_counterexample :
    itemsWf false k1Module.items = true ∧
    ∃ st, aggregate k1Cfg k1Module.events = .ok st ∧ ¬ TopEmbeds (k1Module.entries k1Cfg.allOff) st.documented := by
  obtain ⟨hwf, _, st, hst, hd, _⟩ := k1_run
  refine ⟨hwf, st, hst, ?_⟩
  have he : k1Module.entries k1Cfg.allOff =
      [.cls (lit "MyClass") (lit "A class.\n") [] [] [] []
        [{ name := lit "color", doc := lit "An attribute.\n", parentClass := lit "MyClass", dflt := some (lit "red") }]] := by
    decide +kernel
  rw [he, hd]
  intro h
  cases h with
  | skip _ h' => cases h'
  | keep he _ => simp [Entry.embeds] at he

/-! ## non-vacuity -/

/-- a documented class with a documented and an undocumented member, an undocumented class with a documented
attribute, an undocumented option and a documented set -/
def exMixed : List Item :=
  [ .block (some (mkDoc "" ["Documented class."])) (mkCall "cpp_class" ["A"])
      [ .decl (some (mkDoc "" ["Documented member."])) (mkCall "cpp_member" ["m1", "A"]) (mkCall "function" ["_m1", "self"])
          [] (mkCall "endfunction" []),
        .decl none (mkCall "cpp_member" ["m2", "A"]) (mkCall "function" ["_m2", "self"]) [] (mkCall "endfunction" []) ]
      (mkCall "cpp_end_class" []),
    .block none (mkCall "cpp_class" ["B"])
      [ .cmd (some (mkDoc "" ["Documented attr."])) (mkCall "cpp_attr" ["B", "x"]) ]
      (mkCall "cpp_end_class" []),
    .cmd none (mkCall "option" ["O", "help"]),
    .cmd (some (mkDoc "" ["A var."])) (mkCall "set" ["V", "1"]) ]

/-- under `allOff`: class `A` with `m1` only, and the variable -/
example : ((itemsSpec ({} : Cfg).allOff .none exMixed).top.map
      (fun e => match e with | .cls n _ _ _ _ ms _ => (n, ms.map (·.name)) | .var n .. => (n, []) | _ => ([], []))) =
    [(lit "A", [lit "m1"]), (lit "V", [])] := by decide +kernel

/-- under the default configuration: class `A` with `m1` and `m2`, class `B`, the option, the variable -/
example : ((itemsSpec ({} : Cfg) .none exMixed).top.map
      (fun e => match e with | .cls n _ _ _ _ ms _ => (n, ms.map (·.name)) | .var n .. => (n, [])
                             | .opt n .. => (n, []) | _ => ([], []))) =
    [(lit "A", [lit "m1", lit "m2"]), (lit "B", []), (lit "O", []), (lit "V", [])] := by decide +kernel

example : TopEmbeds (itemsSpec ({} : Cfg).allOff .none exMixed).top (itemsSpec {} .none exMixed).top :=
  (C08_documented_embed {} exMixed .none .none (fun h => h)).1

/-- Switching `include_undocumented_cpp_member` off removes the undocumented member `m2` from class `A` — and its
implementing definition `_m2` then shows up as an ordinary function (`asDefinition`): an entry is *added*, which
is why the embedding is stated against `allOff` and not flag-wise monotonically. -/
example : ((itemsSpec { inclCppMember := false } .none exMixed).top.map
      (fun e => match e with | .cls n _ _ _ _ ms _ => (n, ms.map (·.name)) | .func _ n .. => (n, [])
                             | .var n .. => (n, []) | .opt n .. => (n, []) | _ => ([], []))) =
    [(lit "A", [lit "m1"]), (lit "_m2", []), (lit "B", []), (lit "O", []), (lit "V", [])] := by decide +kernel

example : ((Item.decl none (mkCall "cpp_member" ["m2", "A"]) (mkCall "function" ["_m2", "self"]) []
      (mkCall "endfunction" [])).spec { inclCppMember := false } .shown).top =
      [.func false (lit "_m2") [] [lit "self"] false] ∧
    ((Item.decl none (mkCall "cpp_member" ["m2", "A"]) (mkCall "function" ["_m2", "self"]) []
      (mkCall "endfunction" [])).spec { inclCppMember := false } .shown).members = [] := by
  rw [C08_removed_member _ .shown _ _ _ _ false (by decide +kernel)]; exact ⟨by decide +kernel, by decide +kernel⟩

end Cminx
