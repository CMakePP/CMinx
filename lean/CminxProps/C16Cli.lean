import CminxModel.Cli
import CminxProps.C16
import CminxProps.C19
/-!
# C16 — the command line as the highest-priority source

"…including options only settable from files and the four settable from the command line (-o, -r, -p, -e)."
`Cli.cliSource` is what `set_args(args, dots=True)` keeps of the parsed command line; these theorems say that a flag that is given wins
over every file, that a flag that is absent leaves the lower sources visible (argparse yields `None`, confuse skips it — also for `-r`,
which is never `False`), that an empty value is a value, and that `-e` patterns come first in the union.
-/
namespace Cminx

/-- the command-line source is four entries, each present or not -/
theorem cliSource_eq (p : Parsed) : cliSource p =
    ((p.output.map .str).map (Prod.mk (lit "output.directory"))).toList ++
    ((if p.recursive then some (.bool true) else none).map (Prod.mk (lit "input.recursive"))).toList ++
    ((p.pfx.map .str).map (Prod.mk (lit "rst.prefix"))).toList ++
    ((if p.excludes.isEmpty then none else some (.list (p.excludes.map .str))).map (Prod.mk filtersKey)).toList := by
  unfold cliSource
  congr 3
  · cases p.output <;> rfl
  · cases p.recursive <;> rfl
  · cases p.pfx <;> rfl
  · cases p.excludes.isEmpty <;> rfl

theorem cliSource_get (p : Parsed) (k : Str) : (cliSource p).get k =
    if k = lit "output.directory" then p.output.map .str
    else if k = lit "input.recursive" then (if p.recursive then some (.bool true) else none)
    else if k = lit "rst.prefix" then p.pfx.map .str
    else if k = filtersKey then (if p.excludes.isEmpty then none else some (.list (p.excludes.map .str)))
    else none := by
  simp only [cliSource_eq, Source.get_append, Source.get_option]
  -- each entry answers at its own key, and the keys are distinct (`lit_inj`)
  by_cases h1 : k = lit "output.directory"
  · simp [h1, filtersKey]
  by_cases h2 : k = lit "input.recursive"
  · simp [h2, filtersKey]
  by_cases h3 : k = lit "rst.prefix"
  · simp [h3, filtersKey]
  simp [h1, h2, h3]

theorem cliSource_get_output (p : Parsed) : (cliSource p).get (lit "output.directory") = p.output.map .str := by
  rw [cliSource_get, if_pos rfl]

theorem cliSource_get_recursive (p : Parsed) :
    (cliSource p).get (lit "input.recursive") = if p.recursive then some (.bool true) else none := by
  simp [cliSource_get]

theorem cliSource_get_prefix (p : Parsed) : (cliSource p).get (lit "rst.prefix") = p.pfx.map .str := by
  simp [cliSource_get]

theorem cliSource_get_filters (p : Parsed) :
    (cliSource p).get filtersKey =
      if p.excludes.isEmpty then none else some (.list (p.excludes.map CVal.str)) := by
  simp [cliSource_get, filtersKey]

theorem C16_cli_prefix_wins (p : Parsed) (v : Str) (h : p.pfx = some v) (rest : List Source) :
    effective (cliSource p :: rest) (lit "rst.prefix") = some (.str v) :=
  effective_cons_some (by rw [cliSource_get_prefix, h]; rfl)

theorem C16_cli_output_wins (p : Parsed) (v : Str) (h : p.output = some v) (rest : List Source) :
    effective (cliSource p :: rest) (lit "output.directory") = some (.str v) :=
  effective_cons_some (by rw [cliSource_get_output, h]; rfl)

theorem C16_cli_recursive_wins (p : Parsed) (h : p.recursive = true) (rest : List Source) :
    effective (cliSource p :: rest) (lit "input.recursive") = some (.bool true) :=
  effective_cons_some (by rw [cliSource_get_recursive, if_pos h])

/-- an option absent from the command line does not exist in that source: the lower sources show through -/
theorem C16_cli_prefix_absent (p : Parsed) (h : p.pfx = none) (rest : List Source) :
    effective (cliSource p :: rest) (lit "rst.prefix") = effective rest (lit "rst.prefix") :=
  effective_cons_none (by rw [cliSource_get_prefix, h]; rfl)

theorem C16_cli_output_absent (p : Parsed) (h : p.output = none) (rest : List Source) :
    effective (cliSource p :: rest) (lit "output.directory") = effective rest (lit "output.directory") :=
  effective_cons_none (by rw [cliSource_get_output, h]; rfl)

/-- `-r` absent is *unset*, not `false`: a file that says `recursive: true` is honoured -/
theorem C16_cli_recursive_absent (p : Parsed) (h : p.recursive = false) (rest : List Source) :
    effective (cliSource p :: rest) (lit "input.recursive") = effective rest (lit "input.recursive") :=
  effective_cons_none (by rw [cliSource_get_recursive, h]; rfl)

/-- nothing but the four options can come from the command line -/
theorem C16_cli_only_four (p : Parsed) (k : Str) (h1 : k ≠ lit "output.directory") (h2 : k ≠ lit "input.recursive")
    (h3 : k ≠ lit "rst.prefix") (h4 : k ≠ filtersKey) : (cliSource p).get k = none := by
  rw [cliSource_get, if_neg h1, if_neg h2, if_neg h3, if_neg h4]

/-- `-e` patterns come first in the union, in command-line order -/
theorem C16_cli_filters_first (p : Parsed) (hne : p.excludes ≠ []) (sf user : Source) (b c : List CVal)
    (h2 : sf.get filtersKey = some (.list b)) (h3 : user.get filtersKey = some (.list c)) :
    allContents [cliSource p, sf, user] filtersKey = p.excludes.map CVal.str ++ b ++ c :=
  C16_filters _ _ _ _ _ _ _ (by rw [cliSource_get_filters, if_neg (by simpa using hne)]) h2 h3

theorem C16_cli_filters_absent (p : Parsed) (he : p.excludes = []) (sf user : Source) :
    allContents [cliSource p, sf, user] filtersKey = allContents [sf, user] filtersKey := by
  rw [allContents_cons, cliSource_get_filters, he]
  rfl

/-- every `-e`/`--exclude` on the command line contributes its value, in order; the other fields are untouched -/
theorem C16_cli_exclude_appends (f v : Str) (hf : f = lit "-e" ∨ f = lit "--exclude") (hv : optLike v = false)
    (rest : List Str) (p : Parsed) :
    parseArgv (f :: v :: rest) p =
      parseArgv rest { (if p.files.isEmpty then p else { p with filesDone := true }) with
        excludes := p.excludes ++ [v] } := by
  rw [parseArgv_value (optKind_of_exclude hf) (by decide), hv, if_neg Bool.false_ne_true]
  unfold optSeen
  split <;> rfl

/-- an option whose "value" is itself an option string is a usage error, whatever follows -/
theorem C16_cli_value_missing (f v : Str) (hf : f ∈ [lit "-o", lit "--output", lit "-p", lit "--prefix", lit "-s", lit "--settings", lit "-e", lit "--exclude"])
    (hv : optLike v = true) (rest : List Str) (p : Parsed) : parseArgv (f :: v :: rest) p = none := by
  have hk : ∃ k, optKind f = some k ∧ k ≠ .recursive := by
    simp only [List.mem_cons, List.not_mem_nil, or_false] at hf
    rcases hf with h | h | h | h | h | h | h | h
    · exact ⟨_, optKind_of_output (.inl h), by decide⟩
    · exact ⟨_, optKind_of_output (.inr h), by decide⟩
    · exact ⟨_, optKind_of_pfx (.inl h), by decide⟩
    · exact ⟨_, optKind_of_pfx (.inr h), by decide⟩
    · exact ⟨_, optKind_of_settings (.inl h), by decide⟩
    · exact ⟨_, optKind_of_settings (.inr h), by decide⟩
    · exact ⟨_, optKind_of_exclude (.inl h), by decide⟩
    · exact ⟨_, optKind_of_exclude (.inr h), by decide⟩
  obtain ⟨k, hk, hne⟩ := hk
  rw [parseArgv_value hk hne, hv]
  rfl

/-- input paths in two places are a usage error: `files` is one contiguous run -/
theorem C16_cli_split_inputs (a : Str) (ha : dashy a = false) (hk : knownOpts.contains a = false) (rest : List Str) (p : Parsed)
    (hd : p.filesDone = true) : parseArgv (a :: rest) p = none := by
  rw [parseArgv_positional ha hk, if_pos hd]

-- an empty value is a value; `-r` never yields `false`; kernel-evaluated command lines
example : (parseArgv [lit "in", lit "-p", []] {}).map (fun p => (p.pfx, (cliSource p).map (·.1))) = some (some [], [lit "rst.prefix"]) := by decide +kernel
example : (parseArgv [lit "in", lit "-r", lit "-e", lit "a", lit "--exclude", lit "b"] {}).map (fun p => (p.recursive, p.excludes, (cliSource p).map (·.1))) =
    some (true, [lit "a", lit "b"], [lit "input.recursive", filtersKey]) := by decide +kernel
example : (parseArgv [lit "in"] {}).map (fun p => (cliSource p).map (·.1)) = some [] := by decide +kernel
example : parseArgv [lit "a", lit "-r", lit "b"] {} = none := by decide +kernel
example : parseArgv [lit "a", lit "-p", lit "-x"] {} = none := by decide +kernel
example : (parseArgv [lit "a", lit "-p", lit "-1"] {}).map (·.pfx) = some (some (lit "-1")) := by decide +kernel

/-- a run that gets as far as `document`: the input paths are those of the command line, every option is resolved over command
    line, `-s` file, user file and defaults, and the patterns are the union over the first three -/
theorem mainSettings_ok {argv : List Str} {sfile : Str → Source} {user defaults : Source}
    {files : List Str} {vals : List (Str × Option CVal)} {filters : List CVal} {p : Parsed}
    (h : mainSettings argv sfile user defaults = some (.ok (files, vals, filters))) (hp : parseArgv argv {} = some p) :
    files = p.files ∧
    resolveAll [cliSource p, (match p.settings with | some f => sfile f | none => []), user, defaults] = .ok vals ∧
    filters = allContents [cliSource p, (match p.settings with | some f => sfile f | none => []), user] filtersKey := by
  unfold mainSettings at h
  rw [hp] at h
  simp only [Option.some.injEq] at h
  split at h
  · cases h
  · rename_i hr
    cases h
    obtain ⟨-, hf, hall⟩ := C16_filters_main _ _ _ hr
    exact ⟨rfl, hall, hf⟩

/-- from the argument vector to the settings handed to `document`: a prefix given with `-p` is the prefix in effect, whatever the
    `-s` file, the user file and the defaults say -/
theorem C16_main_prefix_from_argv (argv : List Str) (sfile : Str → Source) (user defaults : Source)
    (files : List Str) (vals : List (Str × Option CVal)) (filters : List CVal)
    (h : mainSettings argv sfile user defaults = some (.ok (files, vals, filters)))
    (p : Parsed) (hp : parseArgv argv {} = some p) (v : Str) (hv : p.pfx = some v) :
    (lit "rst.prefix", some (CVal.str v)) ∈ vals ∧ files = p.files := by
  obtain ⟨hfiles, hall, -⟩ := mainSettings_ok h hp
  have hmem := C16_resolveAll_lookup _ _ hall _ _ optionTable_prefix
  rw [C16_cli_prefix_wins p v hv] at hmem
  exact ⟨hmem, hfiles⟩

end Cminx
