import CminxLemmas.CleanLemmas
/-!
# C04 for arbitrary doccomment blocks: moving a block to the right as a whole

`CminxProps/C04.lean` shows that re-indenting a *tidy* doccomment (`DocC`) does not change the generated
documentation.  Here the same is shown for arbitrary blocks, directly at the level of
`cleanDocLines` / `cleanDoc` / `moduleNameDoc` (`CminxModel/Clean.lean`):
if every line of the block except the opening one is moved to the right by the same whitespace string `p`
(empty lines, and lines that start in column 0 with a non-whitespace character, may be left where they
are), then the cleaned text is unchanged.  "Whitespace" is `pyIsSpace`, what Python's argument-less `lstrip()`
removes.  Both side conditions are necessary (the two counterexamples).
-/
namespace Cminx

/-- every character of `p` is one that `lstrip()` removes -/
def shift_AllWs (p : Str) : Prop := ∀ c ∈ p, pyIsSpace c = true

/-- the line is empty or starts with a non-whitespace character (nothing for `lstrip()` to remove in front) -/
def shift_Flush (l : Str) : Prop := l = [] ∨ ∃ c cs, l = c :: cs ∧ pyIsSpace c = false

/-- `shift_Line p l' l`: `l'` is the line `l` after the block was moved right by `p` — either `p` was put in
front of it, or it was left alone, which is allowed only for empty lines and lines starting with a
non-whitespace character -/
inductive shift_Line (p : Str) : Str → Str → Prop
  | moved (l : Str) : shift_Line p (p ++ l) l
  | kept (l : Str) (h : shift_Flush l) : shift_Line p l l

/-- line-by-line relation between the shifted and the original lines (same number of lines, corresponding
lines related by `shift_Line p`) -/
inductive shift_Lines (p : Str) : List Str → List Str → Prop
  | nil : shift_Lines p [] []
  | cons {l' l : Str} {ls' ls : List Str} (h : shift_Line p l' l) (t : shift_Lines p ls' ls) :
      shift_Lines p (l' :: ls') (l :: ls)

theorem shift_AllWs_nil : shift_AllWs [] := by intro c hc; simp at hc

section
variable {p l' l : Str} {ls' ls : List Str}

theorem shift_Flush.head (h : shift_Flush l) : ∀ c, l.head? = some c → pyIsSpace c = false := by
  rcases h with rfl | ⟨c, cs, rfl, hc⟩
  · simp
  · simpa using hc

/-- a moved line pays for `p` with the extra width, a kept line does not feel the width -/
theorem shift_cleanLine_line (n : Nat) (hp : shift_AllWs p) (h : shift_Line p l' l) :
    cleanLine (p.length + n) l' = cleanLine n l := by
  cases h with
  | moved => exact cleanLine_shift hp n _
  | kept _ hf => rw [cleanLine_of_flush hf.head, cleanLine_of_flush hf.head n]

theorem shift_map_cleanLine (n : Nat) (hp : shift_AllWs p) (h : shift_Lines p ls' ls) :
    ls'.map (cleanLine (p.length + n)) = ls.map (cleanLine n) := by
  induction h with
  | nil => rfl
  | cons h1 _ ih => rw [List.map_cons, List.map_cons, shift_cleanLine_line n hp h1, ih]

theorem shift_Line_noNl (hpn : '\n' ∉ p) (hl : '\n' ∉ l) (h : shift_Line p l' l) : '\n' ∉ l' := by
  cases h with
  | moved => simp [hpn, hl]
  | kept => exact hl

theorem shift_Lines_noNl (hpn : '\n' ∉ p) (h : shift_Lines p ls' ls) (hl : ∀ l ∈ ls, '\n' ∉ l) :
    ∀ l ∈ ls', '\n' ∉ l := by
  induction h with
  | nil => exact hl
  | cons h1 _ ih =>
    have ⟨hl1, hl2⟩ := List.forall_mem_cons.1 hl
    exact List.forall_mem_cons.2 ⟨shift_Line_noNl hpn hl1 h1, ih hl2⟩

end

/-- **General form.** Take any non-empty list of lines `init ++ [last]` (what `text.split("\n")` gives for a
doccomment token). Put the whitespace string `p` in front of the last line, and in front of every other line
too, except that lines which are empty or start with a non-whitespace character may be left alone (the opening
line `#[[[ …` is such a line). Then `clean_doc_lines` returns exactly the same text. -/
theorem C04Shift_lines_general (p last : Str) (init' init : List Str) (hp : shift_AllWs p)
    (h : shift_Lines p init' init) :
    cleanDocLines (init' ++ [p ++ last]) = cleanDocLines (init ++ [last]) := by
  rw [cleanDocLines_concat, cleanDocLines_concat, numSpaces_append_of_all hp, shift_map_cleanLine _ hp h,
    cleanLine_shift hp]

/-- **Moving a doccomment block to the right does not change the cleaned text (arbitrary block).**
`first` is the opening line (empty or starting with a non-whitespace character, e.g. `#[[[`), `last` is the
closing line (any string), `body` are the lines in between (any strings). The block is moved right by the
whitespace string `p`: the closing line becomes `p ++ last`, every body line `l` becomes `p ++ l` or — only
if it is empty or starts with a non-whitespace character — stays as it is. The opening line is unchanged
(the token starts at its `#`). Then `clean_doc_lines` gives the same result. The body may be empty. -/
theorem C04Shift_lines (p first last : Str) (body' body : List Str) (hp : shift_AllWs p)
    (hf : shift_Flush first) (hb : shift_Lines p body' body) :
    cleanDocLines (first :: body' ++ [p ++ last]) = cleanDocLines (first :: body ++ [last]) :=
  C04Shift_lines_general p last (first :: body') (first :: body) hp
    (shift_Lines.cons (shift_Line.kept first hf) hb)

/-- The degenerate block with no body lines: only the closing line moves. -/
theorem C04Shift_lines_no_body (p first last : Str) (hp : shift_AllWs p) (hf : shift_Flush first) :
    cleanDocLines [first, p ++ last] = cleanDocLines [first, last] :=
  C04Shift_lines p first last [] [] hp hf shift_Lines.nil

/-- The one-line case (opening line = closing line, e.g. `#[[[ text #]]` — not a real token, since every
doccomment token contains a newline): putting whitespace in front of the single line changes nothing. -/
theorem C04Shift_one_line (p l : Str) (hp : shift_AllWs p) : cleanDocLines [p ++ l] = cleanDocLines [l] :=
  C04Shift_lines_general p l [] [] hp shift_Lines.nil

/-- **The same at the level of the token text.** If no line contains `'\n'` and the shift `p` contains no
`'\n'` either (needed: `'\n'` counts as whitespace, see `C04Shift_newline_shift_counterexample`), then the
text of the shifted block and the text of the original block are cleaned to the same documentation. -/
theorem C04Shift_cleanDoc (p first last : Str) (body' body : List Str) (hp : shift_AllWs p)
    (hf : shift_Flush first) (hb : shift_Lines p body' body)
    (hpn : '\n' ∉ p) (hfn : '\n' ∉ first) (hln : '\n' ∉ last) (hbn : ∀ l ∈ body, '\n' ∉ l) :
    cleanDoc (joinNl (first :: body' ++ [p ++ last])) = cleanDoc (joinNl (first :: body ++ [last])) := by
  have hbn' := shift_Lines_noNl hpn hb hbn
  unfold cleanDoc
  rw [splitNl_joinNl (by simp) (List.forall_mem_append.2 ⟨List.forall_mem_cons.2 ⟨hfn, hbn'⟩, by simp [hpn, hln]⟩),
    splitNl_joinNl (by simp) (List.forall_mem_append.2 ⟨List.forall_mem_cons.2 ⟨hfn, hbn⟩, by simp [hln]⟩)]
  exact C04Shift_lines p first last body' body hp hf hb

/-- **The same for a module doccomment:** the `@module` name and the module documentation extracted from the
token text do not change when the block is moved to the right. -/
theorem C04Shift_moduleNameDoc (p first last : Str) (body' body : List Str) (hp : shift_AllWs p)
    (hf : shift_Flush first) (hb : shift_Lines p body' body)
    (hpn : '\n' ∉ p) (hfn : '\n' ∉ first) (hln : '\n' ∉ last) (hbn : ∀ l ∈ body, '\n' ∉ l) :
    moduleNameDoc (joinNl (first :: body' ++ [p ++ last])) =
      moduleNameDoc (joinNl (first :: body ++ [last])) := by
  unfold moduleNameDoc
  rw [C04Shift_cleanDoc p first last body' body hp hf hb hpn hfn hln hbn]

/-- One-line token text (no newline at all): whitespace in front changes nothing. -/
theorem C04Shift_cleanDoc_one_line (p l : Str) (hp : shift_AllWs p) (hpn : '\n' ∉ p) (hl : '\n' ∉ l) :
    cleanDoc (p ++ l) = cleanDoc l := by
  unfold cleanDoc
  rw [splitNl_of_noNl (l := p ++ l) (by simp [hpn, hl]), splitNl_of_noNl hl]
  exact C04Shift_one_line p l hp

/-! ## the side conditions are necessary -/

/-- **A whitespace-only body line must be shifted too (or be empty).** The block
`#[[[` / four blanks / `··#]]` is moved right by two blanks but the middle line is left as it is: the cleaned
text changes (the original keeps one blank of that line, the shifted block keeps none). So the restriction
on lines that are left alone cannot be dropped. -/
theorem C04Shift_blank_line_counterexample :
    cleanDocLines [lit "#[[[", lit "    ", lit "  " ++ lit "  #]]"] ≠
      cleanDocLines [lit "#[[[", lit "    ", lit "  #]]"] ∧
    cleanDocLines [lit "#[[[", lit "    ", lit "  #]]"] = lit " \n" ∧
    cleanDocLines [lit "#[[[", lit "    ", lit "  " ++ lit "  #]]"] = lit "\n" := by
  repeat rw [lit_ofList]
  decide

/-- **At token-text level the shift must not contain a newline.** `'\n'` is whitespace for `lstrip()`, so
`p = "\n"` satisfies the line-level theorem, but the joined text then has one more line and the cleaned
text differs. -/
theorem C04Shift_newline_shift_counterexample :
    shift_AllWs (lit "\n") ∧
    cleanDoc (joinNl [lit "#[[[", lit "\n" ++ lit "#]]"]) ≠ cleanDoc (joinNl [lit "#[[[", lit "#]]"]) := by
  unfold shift_AllWs
  repeat rw [lit_ofList]
  decide

/-- **Worked example (an untidy block moved right by a tab).** The closing line is indented deeper (4) than
the body (2), one body line is deeper still (6), there is an empty line in the middle, which the editor does
not indent. The original and the shifted token text give the same documentation — by the main theorem —
and that documentation is the literal text shown. -/
theorem C04Shift_example :
    cleanDoc (lit "#[[[\n\t  # Summary\n\n\t      # deeper\n\t    #]]") =
      cleanDoc (lit "#[[[\n  # Summary\n\n      # deeper\n    #]]") ∧
    cleanDoc (lit "#[[[\n  # Summary\n\n      # deeper\n    #]]") = lit "Summary\n\n # deeper\n" := by
  have h := C04Shift_cleanDoc (lit "\t") (lit "#[[[") (lit "    #]]")
    [lit "\t" ++ lit "  # Summary", [], lit "\t" ++ lit "      # deeper"]
    [lit "  # Summary", [], lit "      # deeper"]
    (by rw [lit_ofList]; unfold shift_AllWs; decide)
    (Or.inr ⟨'#', _, lit_ofList _, by decide⟩)
    (.cons (.moved _) (.cons (.kept [] (.inl rfl)) (.cons (.moved _) .nil)))
    (not_mem_lit_of (by decide)) (not_mem_lit_of (by decide)) (not_mem_lit_of (by decide))
    (by rw [lit_ofList, lit_ofList]; decide)
  -- every literal becomes its list of characters; then `h` is the first half literally
  repeat rw [lit_ofList] at h
  repeat rw [lit_ofList]
  exact ⟨h, by decide⟩

end Cminx
