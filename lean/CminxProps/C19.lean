import CminxModel.CMakeWrap
import CminxLemmas.StrLemmas
/-!
# C19 — `cminx_gen_rst()` is equivalent to the command line

About `CMakeWrap.lean`.  **Partial by nature**: CMake's evaluation of the function body and `execute_process`
are trusted; the tie is `harness/s_cmake.py`, which drives the real `cmake -P` with `CMINX_EXECUTABLE` bound to an
argv recorder (compared with `genArgv`), to the working-tree CMinx (output tree compared with a direct run) and to a
failing child.
-/
namespace Cminx

theorem splitSemiAux_noSemi (s cur : Str) (h : ';' ∉ s) :
    splitSemiAux s cur = if (cur.reverse ++ s).isEmpty then [] else [cur.reverse ++ s] := by
  induction s generalizing cur with
  | nil => simp [splitSemiAux]
  | cons c cs ih =>
    rw [List.mem_cons, not_or] at h
    rw [splitSemiAux, if_neg (Ne.symm h.1), ih (c :: cur) h.2]
    simp

/-- an argument without `;` that is not empty survives CMake's list expansion unchanged -/
theorem C19_arg_verbatim (e : Str) (hne : e ≠ []) (hs : ';' ∉ e) : splitSemi e = [e] :=
  (splitSemiAux_noSemi e [] hs).trans (if_neg (by simpa using hne))

/-- extra arguments are forwarded verbatim: same arguments, same order, same boundaries -/
theorem C19_verbatim (extra : List Str) (h : ∀ e ∈ extra, e ≠ [] ∧ ';' ∉ e) : flattenExtra extra = extra := by
  rw [flattenExtra, List.flatMap_def, List.map_congr_left fun e he => C19_arg_verbatim e (h e he).1 (h e he).2,
    ← List.flatMap_def, List.flatMap_singleton']

/-- the argument vector: input first, `-r` iff the input is a directory, then the extras, then `-o output` -/
theorem C19_argv (isDir : Bool) (input output : Str) (extra : List Str) (h : ∀ e ∈ extra, e ≠ [] ∧ ';' ∉ e) :
    genArgv isDir input output extra =
      [input] ++ (if isDir then [lit "-r"] else []) ++ extra ++ [lit "-o", output] := by
  simp [genArgv, C19_verbatim extra h]

/-- `-r` is added iff the input is a directory (when no forwarded argument is itself `-r`) -/
theorem C19_recursive (isDir : Bool) (input output : Str) (extra : List Str)
    (h : ∀ e ∈ extra, e ≠ [] ∧ ';' ∉ e) (hi : input ≠ lit "-r") (ho : output ≠ lit "-r") (he : lit "-r" ∉ extra) :
    lit "-r" ∈ genArgv isDir input output extra ↔ isDir = true := by
  rw [C19_argv isDir input output extra h]
  cases isDir <;> simp [he, Ne.symm hi, Ne.symm ho]

/-- what every option does to the accumulator before its own effect: once input paths have been seen, their run is over -/
def optSeen (p : Parsed) : Parsed := if p.files.isEmpty then p else { p with filesDone := true }

/-- the options of `main`'s parser: `-r` is a flag, the other four take one value -/
inductive OptKind where
  | recursive | output | pfx | settings | exclude
deriving DecidableEq

/-- argparse's table from option strings to actions, asked in the order in which `parseArgv` asks -/
def optKind (a : Str) : Option OptKind :=
  if a = lit "-r" ∨ a = lit "--recursive" then some .recursive
  else if a = lit "-o" ∨ a = lit "--output" then some .output
  else if a = lit "-p" ∨ a = lit "--prefix" then some .pfx
  else if a = lit "-s" ∨ a = lit "--settings" then some .settings
  else if a = lit "-e" ∨ a = lit "--exclude" then some .exclude
  else none

/-- what an option stores (`-r` has no value: the argument is not looked at) -/
def OptKind.store : OptKind → Parsed → Str → Parsed
  | .recursive, p, _ => { p with recursive := true }
  | .output, p, v => { p with output := some v }
  | .pfx, p, v => { p with pfx := some v }
  | .settings, p, v => { p with settings := some v }
  | .exclude, p, v => { p with excludes := p.excludes ++ [v] }

/-- the options a caller of `cminx_gen_rst` forwards; `-o` and `-r` are added by the function itself -/
def OptKind.forwarded : OptKind → Bool
  | .pfx | .settings | .exclude => true
  | _ => false

theorem optSeen_idem (p : Parsed) : optSeen (optSeen p) = optSeen p := by
  unfold optSeen; split <;> simp_all

section
variable {a f v v' : Str} {k k' : OptKind} {rest : List Str} {p : Parsed}

/-- what the parser does with a token once the table has said what it is -/
def argStep (a : Str) (rest : List Str) (p : Parsed) : Option OptKind → Option Parsed
  | some .recursive => parseArgv rest (OptKind.recursive.store (optSeen p) [])
  | some k =>
    (match rest with
     | v :: rest' => if optLike v then none else parseArgv rest' (k.store (optSeen p) v)
     | [] => none)
  | none => if dashy a then none else if p.filesDone then none else parseArgv rest { p with files := p.files ++ [a] }

theorem parseArgv_cons : parseArgv (a :: rest) p = argStep a rest p (optKind a) := by
  -- `optKind` asks in the order of `parseArgv`: with `argStep` pushed into its branches the two sides are the same chain of guards
  rw [parseArgv.eq_def]
  unfold optKind
  simp only [apply_ite (argStep a rest p)]
  rfl

/-! the rows of the table: this is the one place where the ten option strings are compared with each other -/

theorem optKind_of_recursive (h : f = lit "-r" ∨ f = lit "--recursive") : optKind f = some .recursive := if_pos h

theorem optKind_of_output (h : f = lit "-o" ∨ f = lit "--output") : optKind f = some .output := by
  rcases h with rfl | rfl <;> simp [optKind]

theorem optKind_of_pfx (h : f = lit "-p" ∨ f = lit "--prefix") : optKind f = some .pfx := by
  rcases h with rfl | rfl <;> simp [optKind]

theorem optKind_of_settings (h : f = lit "-s" ∨ f = lit "--settings") : optKind f = some .settings := by
  rcases h with rfl | rfl <;> simp [optKind]

theorem optKind_of_exclude (h : f = lit "-e" ∨ f = lit "--exclude") : optKind f = some .exclude := by
  rcases h with rfl | rfl <;> simp [optKind]

theorem optKind_of_not_known (h : knownOpts.contains a = false) : optKind a = none := by
  simp only [knownOpts, List.contains_cons, List.contains_nil, Bool.or_eq_false_iff, beq_eq_false_iff_ne, ne_eq] at h
  simp [optKind, h]

theorem parseArgv_r : parseArgv (lit "-r" :: rest) p = parseArgv rest (OptKind.recursive.store (optSeen p) []) := by
  rw [parseArgv_cons, optKind_of_recursive (.inl rfl)]
  rfl

theorem parseArgv_value (hf : optKind f = some k) (hk : k ≠ .recursive) :
    parseArgv (f :: v :: rest) p = if optLike v then none else parseArgv rest (k.store (optSeen p) v) := by
  rw [parseArgv_cons, hf]
  cases k
  case recursive => exact absurd rfl hk
  all_goals rfl

theorem parseArgv_o :
    parseArgv (lit "-o" :: v :: rest) p = if optLike v then none else parseArgv rest (OptKind.output.store (optSeen p) v) :=
  parseArgv_value (optKind_of_output (.inl rfl)) (by decide)

theorem parseArgv_positional (ha : dashy a = false) (hk : knownOpts.contains a = false) :
    parseArgv (a :: rest) p = if p.filesDone then none else parseArgv rest { p with files := p.files ++ [a] } := by
  rw [parseArgv_cons, optKind_of_not_known hk]
  simp [argStep, ha]

theorem parseArgv_first (ha : dashy a = false) (hk : knownOpts.contains a = false) :
    parseArgv (a :: rest) {} = parseArgv rest { files := [a] } := by
  rw [parseArgv_positional ha hk]
  rfl

/-! `optSeen` reads `files` only and writes `filesDone` only; every option writes one other field -/

theorem optSeen_files : (optSeen p).files = p.files := by
  unfold optSeen
  split <;> rfl

theorem optSeen_filesDone (h : p.files ≠ []) : (optSeen p).filesDone = true := by
  rw [optSeen, if_neg (mt List.isEmpty_iff.mp h)]

theorem OptKind.store_files : (k.store p v).files = p.files := by
  cases k <;> rfl

theorem optSeen_store : optSeen (k.store p v) = k.store (optSeen p) v := by
  unfold optSeen
  rw [OptKind.store_files, apply_ite (k.store · v)]
  cases k <;> rfl

theorem OptKind.store_comm (h : k ≠ k') : k.store (k'.store p v') v = k'.store (k.store p v) v' := by
  cases k <;> cases k' <;> first | rfl | exact absurd rfl h

end

/-- option groups a caller forwards: `-p V`, `-e V`, `-s V` (long forms too); the values are not option-like (argparse
    refuses an option-like token as a value) -/
inductive Groups : List Str → Prop where
  | nil : Groups []
  | pfx (f v : Str) (rest : List Str) : (f = lit "-p" ∨ f = lit "--prefix") → optLike v = false → Groups rest → Groups (f :: v :: rest)
  | excl (f v : Str) (rest : List Str) : (f = lit "-e" ∨ f = lit "--exclude") → optLike v = false → Groups rest → Groups (f :: v :: rest)
  | sett (f v : Str) (rest : List Str) : (f = lit "-s" ∨ f = lit "--settings") → optLike v = false → Groups rest → Groups (f :: v :: rest)

/-- What the parser does with a block `g` of tokens is the update `F` of its accumulator, and `F` respects the frame of forwarded
    option groups: they read `files` and write prefix / settings / excludes / `filesDone` only, so `F` commutes with closing the run of
    input paths and with storing the two options `cminx_gen_rst` adds itself. -/
structure Effect (g : List Str) (F : Parsed → Parsed) : Prop where
  parse : ∀ tail q, parseArgv (g ++ tail) q = parseArgv tail (F q)
  seen : ∀ q, F (optSeen q) = optSeen (F q)
  store : ∀ {k : OptKind}, k.forwarded = false → ∀ q v, F (k.store q v) = k.store (F q) v
  files : ∀ q, (F q).files = q.files

/-- each group first closes the run of input paths (`optSeen`), then stores its value -/
theorem Effect.cons {f v : Str} {k : OptKind} {rest : List Str} {F : Parsed → Parsed} (hf : optKind f = some k)
    (hk : k.forwarded = true) (hv : optLike v = false) (h : Effect rest F) :
    Effect (f :: v :: rest) fun q => F (k.store (optSeen q) v) where
  parse tail q := by
    have hne : k ≠ .recursive := fun e => by rw [e] at hk; cases hk
    rw [List.cons_append, List.cons_append, parseArgv_value hf hne, hv]
    exact h.parse tail _
  seen q := by rw [optSeen_idem, ← h.seen, optSeen_store, optSeen_idem]
  store {k'} hk' q v' := by
    have hne : k ≠ k' := fun e => by rw [e, hk'] at hk; cases hk
    rw [optSeen_store, OptKind.store_comm hne, h.store hk']
  files q := by rw [h.files, OptKind.store_files, optSeen_files]

theorem Groups.effect {g : List Str} (hg : Groups g) : ∃ F, Effect g F := by
  induction hg with
  | nil => exact ⟨id, ⟨fun _ _ => rfl, fun _ => rfl, fun _ _ _ => rfl, fun _ => rfl⟩⟩
  | pfx f v rest hf hv _ ih => exact ih.elim fun F h => ⟨_, h.cons (optKind_of_pfx hf) rfl hv⟩
  | excl f v rest hf hv _ ih => exact ih.elim fun F h => ⟨_, h.cons (optKind_of_exclude hf) rfl hv⟩
  | sett f v rest hf hv _ ih => exact ih.elim fun F h => ⟨_, h.cons (optKind_of_settings hf) rfl hv⟩

theorem parseArgv_nil_isSome {q : Parsed} (h : q.files ≠ []) : (parseArgv [] q).isSome = true := by
  unfold parseArgv
  rw [if_neg (mt List.isEmpty_iff.mp h)]
  rfl

/-- the invocation CMake builds and the documented command line `cminx <input> -o <output> <extra…> [-r]` are parsed to
    the same result by `main`'s argument parser, for an `input` that is a positional (no option string, not option-like).
    When `output` cannot be the value of `-o` (it is option-like) both command lines are the same usage error -/
theorem C19_equiv (isDir : Bool) (input output : Str) (extra : List Str)
    (hg : Groups extra) (hv : ∀ e ∈ extra, e ≠ [] ∧ ';' ∉ e)
    (hin : dashy input = false) (hink : knownOpts.contains input = false) :
    parseArgv (genArgv isDir input output extra) {} =
      parseArgv ([input, lit "-o", output] ++ extra ++ (if isDir then [lit "-r"] else [])) {} := by
  -- both sides are parsed token by token; the effect of the forwarded groups is then moved past `-o output` and `-r`
  obtain ⟨F, hF⟩ := hg.effect
  rw [C19_argv isDir input output extra hv]
  cases isDir
  · simp only [Bool.false_eq_true, if_false, List.append_nil, List.cons_append, List.nil_append]
    rw [parseArgv_first hin hink, parseArgv_first hin hink, hF.parse, parseArgv_o, parseArgv_o,
      ← List.append_nil extra, hF.parse, hF.store rfl, hF.seen]
  · simp only [if_true, List.cons_append, List.nil_append]
    rw [parseArgv_first hin hink, parseArgv_first hin hink, parseArgv_r, hF.parse, parseArgv_o, parseArgv_o, hF.parse,
      parseArgv_r]
    rw [hF.store rfl, hF.store rfl, optSeen_store, optSeen_store, hF.seen, OptKind.store_comm (by decide)]

/-- with an `output` that can be the value of `-o`, the common result is a success: the command line is accepted -/
theorem C19_equiv_accepted (isDir : Bool) (input output : Str) (extra : List Str)
    (hg : Groups extra) (hv : ∀ e ∈ extra, e ≠ [] ∧ ';' ∉ e)
    (hin : dashy input = false) (hink : knownOpts.contains input = false) (hout : optLike output = false) :
    (parseArgv (genArgv isDir input output extra) {}).isSome = true := by
  -- the documented command line is parsed to its end; the input path is still there
  obtain ⟨F, hF⟩ := hg.effect
  rw [C19_equiv isDir input output extra hg hv hin hink]
  simp only [List.cons_append, List.nil_append]
  rw [parseArgv_first hin hink, parseArgv_o, hout, if_neg Bool.false_ne_true, hF.parse]
  have hfiles : (F (OptKind.output.store (optSeen { files := [input] }) output)).files ≠ [] := by
    rw [hF.files, OptKind.store_files, optSeen_files]
    exact List.cons_ne_nil _ _
  cases isDir
  · exact parseArgv_nil_isSome hfiles
  · rw [if_pos rfl, parseArgv_r]
    apply parseArgv_nil_isSome
    rwa [OptKind.store_files, optSeen_files]

/-- an extra argument that is itself a positional — a second input path handed to `cminx_gen_rst` of a *directory* — makes the
    generated command line a usage error: `-r` stands between the two input paths, and `files` is one contiguous run -/
theorem C19_positional_extra_rejected (input output e : Str) (rest : List Str)
    (hin : dashy input = false) (hink : knownOpts.contains input = false)
    (he : dashy e = false) (hek : knownOpts.contains e = false) (hne : e ≠ []) (hs : ';' ∉ e) :
    parseArgv (genArgv true input output (e :: rest)) {} = none := by
  simp only [genArgv, flattenExtra, List.flatMap_cons, C19_arg_verbatim e hne hs, if_true, List.cons_append, List.nil_append]
  rw [parseArgv_first hin hink, parseArgv_r, parseArgv_positional he hek]
  exact if_pos (optSeen_filesDone (List.cons_ne_nil _ _))

/-- the counterpart for an input *file*: nothing stands between `input` and the extra, which becomes a second input path -/
theorem C19_positional_extra_second_input (input output e : Str) (rest : List Str)
    (hin : dashy input = false) (hink : knownOpts.contains input = false)
    (he : dashy e = false) (hek : knownOpts.contains e = false) (hne : e ≠ []) (hs : ';' ∉ e) :
    parseArgv (genArgv false input output (e :: rest)) {} =
      parseArgv (flattenExtra rest ++ [lit "-o", output]) { files := [input, e] } := by
  simp only [genArgv, flattenExtra, List.flatMap_cons, C19_arg_verbatim e hne hs, Bool.false_eq_true, if_false, List.cons_append,
    List.nil_append, List.append_nil]
  rw [parseArgv_first hin hink, parseArgv_positional he hek]
  rfl

/-- `COMMAND_ERROR_IS_FATAL ANY`: a failing CMinx run makes the CMake call fail -/
theorem C19_fatal (status : Int) : cmakeFails status = true ↔ status ≠ 0 := by simp [cmakeFails]

/-- known finding K5: an argument containing `;` is split, an empty argument is dropped -/
theorem C19_K5_counterexample :
    flattenExtra [lit "-e", lit "a;b", lit "-e", []] = [lit "-e", lit "a", lit "b", lit "-e"] := by decide

example : Groups [lit "-p", lit "PFX", lit "-e", lit "sub/", lit "--settings", lit "s.yaml"] := by
  have h : optLike (lit "PFX") = false ∧ optLike (lit "sub/") = false ∧ optLike (lit "s.yaml") = false := by decide +kernel
  exact .pfx _ _ _ (Or.inl rfl) h.1 (.excl _ _ _ (Or.inl rfl) h.2.1 (.sett _ _ _ (Or.inr rfl) h.2.2 .nil))
example : genArgv true (lit "/src/dir") (lit "/out") [lit "-p", lit "PFX"] =
    [lit "/src/dir", lit "-r", lit "-p", lit "PFX", lit "-o", lit "/out"] :=
  C19_argv true _ _ _ (by decide)
example : parseArgv (genArgv true (lit "/src/dir") (lit "/out") [lit "-p", lit "PFX", lit "-e", lit "x"]) {} =
    some { files := [lit "/src/dir"], output := some (lit "/out"), recursive := true, pfx := some (lit "PFX"), excludes := [lit "x"],
           filesDone := true } := by decide +kernel
-- a second input path as extra: refused for a directory, accepted (as a second input path) for a file
example : parseArgv (genArgv true (lit "/src/dir") (lit "/out") [lit "/src/other"]) {} = none := by decide +kernel
example : parseArgv (genArgv false (lit "a.cmake") (lit "/out") [lit "b.cmake"]) {} =
    some { files := [lit "a.cmake", lit "b.cmake"], output := some (lit "/out"), filesDone := true } := by decide +kernel
-- K5 at the parser: the split value `a;b` leaves `b` as a positional after an option — a usage error
example : parseArgv (genArgv false (lit "in") (lit "/out") [lit "-e", lit "a;b"]) {} = none := by decide +kernel
-- the hypotheses of `C19_equiv` / `C19_equiv_accepted` on `input` and `output` hold for ordinary paths, and also for `-` and `-1`
example : dashy (lit "/src/dir") = false ∧ knownOpts.contains (lit "/src/dir") = false ∧ optLike (lit "/out") = false := by decide +kernel
example : dashy (lit "-") = false ∧ dashy (lit "-1") = false ∧ optLike [] = false := by decide +kernel

end Cminx
