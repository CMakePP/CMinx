import CminxLemmas.AggStep
/-!
# C03 — an implementing definition that carries a doccomment of its own (D14)

`T_agg` (and with it `C03_machine`) is stated for modules whose implementing definitions carry no doccomment.  The
refinement theorem that covers the remaining case is `T_aggS` (`TAggSeq.lean`); `TAggSeq_documented_impl`,
`TAggSeq_documented_impl_kwargs` and `TAggSeq_documented_impl_stacks` say what such a definition contributes there.
This file states the listener's behaviour on that case one step of the state machine at a time: after the repair
`531ae13` the doccomment + command events of such a definition grow the definition stack by exactly one entry (its
own), `endfunction`/`endmacro` restores the stack, and a `cmake_parse_arguments` directly in its body marks its own
entry — so "calls in nested, sibling or later definitions or at file level never affect it" is not disturbed by the
stale entry the unrepaired code left behind.  `D14_witness` evaluates the concrete input of the finding.

The statements speak of a raw event `.docCmd d c`, for any text `d : Str` and any `c : Cmd`, and assume no invariant of
the state.  The lemmas of `AggStep.lean` speak of `docEvent doc c` for a `Call` and a `DocC` of a source tree, whose
events are only some of these (a doccomment text there is a `DocC.tokenText`), so the statements here are proved from
`step` itself.  `C09_decl_takes_slot`, `C09_decl_ignores_pending` (`C09.lean`) and the K2 theorems of `Findings.lean`
are at the same raw level.
-/
namespace Cminx

/-- D14 (repaired by 531ae13): the doccomment + command events of a *documented* definition that is also claimed by
the awaiting declaration `ref` append the definition's entry, complete the declaration, and grow the definition
stack by exactly ONE entry — the definition's own, at the index of its entry.  (Before the repair it grew by two, of
which `endfunction` popped one.) -/
theorem C03_documented_impl_step (cfg : Cfg) (st : AggState) (d : Str) (c : Cmd) (ref : AwaitRef) (name : Str) (ps : List Str)
    (hdef : asciiLower c.name = lit "function" ∨ asciiLower c.name = lit "macro")
    (haw : st.awaiting = some ref) (hs : c.singles = name :: ps) :
    ∃ st', step cfg st (.docCmd d c) = .ok st' ∧
      st'.defStack = some st.documented.length :: st.defStack ∧ st'.awaiting = none ∧
      st'.classStack = st.classStack ∧ st'.documented.length = st.documented.length + 1 := by
  rcases hdef with h | h
  all_goals
    simp only [step, enterDocumented, h, procOf_function, procOf_macro, runProc, processDef, hs, bind, Except.bind,
      pure, Except.pure]
    rw [enterCommand_claim_consumed cfg _ c ref (by simp [h]) (by simpa [AggState.push] using haw)]
    refine ⟨_, rfl, ?_⟩
    cases ref <;> simp [claimDefinition, AggState.push]

/-- … so the matching `endfunction`/`endmacro` restores the stack of before the definition, whatever the body did to
the rest of the state as long as it left the stack as it found it -/
theorem C03_documented_impl_balanced (cfg : Cfg) (st st' st'' : AggState) (d : Str) (c e : Cmd) (ref : AwaitRef) (name : Str) (ps : List Str)
    (hdef : asciiLower c.name = lit "function" ∨ asciiLower c.name = lit "macro")
    (haw : st.awaiting = some ref) (hs : c.singles = name :: ps)
    (hstep : step cfg st (.docCmd d c) = .ok st')
    (hbody : st''.defStack = st'.defStack)
    (hend : asciiLower e.name = lit "endfunction" ∨ asciiLower e.name = lit "endmacro") :
    step cfg st'' (.cmd e) = .ok { st'' with defStack := st.defStack } := by
  obtain ⟨s1, h1, hd, -, -, -⟩ := C03_documented_impl_step cfg st d c ref name ps hdef haw hs
  rw [hstep] at h1; cases h1
  rw [hd] at hbody
  simpa [step] using enterCommand_endDef cfg st'' false e _ _ hend hbody

/-- a `cmake_parse_arguments` directly in the body of such a definition marks the definition's own entry -/
theorem C03_documented_impl_cpa (cfg : Cfg) (st st' : AggState) (d : Str) (c : Cmd) (ref : AwaitRef) (name : Str) (ps : List Str)
    (hdef : asciiLower c.name = lit "function" ∨ asciiLower c.name = lit "macro")
    (haw : st.awaiting = some ref) (hs : c.singles = name :: ps)
    (hstep : step cfg st (.docCmd d c) = .ok st') :
    (processCpa st').documented = st'.documented.modify st.documented.length setKwargs := by
  obtain ⟨s1, h1, hd, -, -, -⟩ := C03_documented_impl_step cfg st d c ref name ps hdef haw hs
  rw [hstep] at h1; cases h1
  simp [processCpa, hd]

namespace C03

/-- the witness of D14: `function(outer a)` whose body declares a test, implements it with a *documented* function
and then calls `cmake_parse_arguments` -/
def exD14 : List Event :=
  [ .docCmd (lit "#[[[\n# Outer.\n#]]") ⟨lit "function", [.single (lit "outer"), .single (lit "a")]⟩,
    .cmd ⟨lit "ct_add_test", [.single (lit "NAME"), .single (lit "t")]⟩,
    .docCmd (lit "#[[[\n# Impl.\n#]]") ⟨lit "function", [.single (lit "${t}")]⟩,
    .cmd ⟨lit "endfunction", []⟩,
    .cmd ⟨lit "cmake_parse_arguments", [.single (lit "P")]⟩,
    .cmd ⟨lit "endfunction", []⟩ ]

/-- on the witness the `**kwargs` flag goes to `outer` (whose body holds the call) and not to the implementing
definition, and the definition stack ends empty (before the repair: `outer` without, `${t}` with the flag, and one
stale entry left on the stack) -/
theorem D14_witness :
    (aggregate {} exD14).toOption.map (fun s => (s.documented.map (fun e => match e with
        | .func _ n _ _ kw => (n, kw) | .test _ n .. => (n, false) | _ => ([], false)), s.defStack)) =
      some ([(lit "outer", true), (lit "t", false), (lit "${t}", false)], []) := by
  decide +kernel

end C03
end Cminx
