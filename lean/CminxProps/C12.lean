import CminxProps.C07
/-!
# C12 — Title and module name

*Statement.* "Each generated page starts with a title whose over- and underline consist of the first configured
header character repeated to exactly the title's length, followed by exactly one module directive before any
entry.  Title and module name are derived only from the prefix (default: the input directory's name) and the
file's path relative to the input directory (a lone input file: its base name), start with the prefix and the
configured separator when a prefix applies, drop the .cmake extension unless the corresponding option keeps it,
and differ for different files; if the file starts with an '@module <name>' doccomment, <name> is both title and
module name, and that doccomment's text becomes the module directive's content and is never attached to the
following command."

Two clauses are false as literally stated and are proved with an explicit extra hypothesis:

* "start with the prefix and the separator": the extension is removed *after* the prefix was put in front
  (`re.sub(r"\.cmake$", "", prefix + sep + name, flags=re.IGNORECASE)`), so a name shorter than six characters can
  lose part of the separator: prefix `a`, separator `.`, lone file `cmake` gives the title `a`
  (`C12_prefix_counterexample`).
  True whenever the relative path has at least six characters, in particular for every CMake-named file, which is
  all the directory walk ever documents (`C12_prefix_partial`), and always true when the extension is kept
  (`C12_prefix_ext`).
* "differ for different files" (K4): with the extension dropped, `a.cmake` and `a.CMAKE` get the same title
  (`C12_K4_counterexample`).  Titles are injective when the extension is kept (`C12_injective_ext`); with the
  extension dropped, two CMake-named paths collide exactly when they have the same stem (`C12_title_eq_iff`),
  hence never when both spell the extension the same way, e.g. lower case (`C12_injective`).
-/
namespace Cminx

/-- a `.. module::` directive -/
def Elem.isModuleDir : Elem → Bool
  | .directive name _ _ _ => name == lit "module"
  | _ => false

/-- the name a module doccomment declares, if it declares one -/
def namedModule? : Entry → Option Str
  | .module n _ => if n.isEmpty then none else some n
  | _ => none

/-- the module directive's argument: the `@module` name of a leading module doccomment if it has one, else the
    path-derived module name -/
def moduleArg (modName : Str) : List Entry → Str
  | .module n _ :: _ => if n.isEmpty then modName else n
  | _ => modName

/-- the text of a leading module doccomment -/
def moduleDoc : List Entry → Str
  | .module _ d :: _ => d
  | _ => []

/-- A page is: a blank line; the first header character repeated to exactly the title's length (in code points);
    the title; the same bar again; then the entries as top-level directives (`renderedDocs`: module first). -/
theorem C12_frame (cfg : Cfg) (c : Char) (hs : List Str) (title modName src out : Str)
    (h : pipeline cfg ([c] :: hs) title modName src = .ok out) :
    ∃ docs, documentedOf cfg src = .ok docs ∧
      out = '\n' :: (List.replicate (titleOf title docs).length c ++
              '\n' :: (titleOf title docs ++ '\n' :: List.replicate (titleOf title docs).length c)) ++
            '\n' :: renderElems 0 ((renderedDocs modName docs).map Entry.toElem) := by
  simp only [pipeline] at h
  cases hd : documentedOf cfg src with
  | error e => simp [hd] at h
  | ok docs =>
    simp only [hd, Except.ok.injEq] at h
    refine ⟨docs, rfl, ?_⟩
    rw [← h, C07_doc_order, renderHeading, repeatStr_single_char]

/-- over- and underline have exactly the title's length -/
theorem C12_bar_length (c : Char) (t : Str) : (repeatStr [c] t.length).length = t.length := by
  simp [repeatStr_single_char]

theorem C12_isModuleDir_toElem (e : Entry) : e.toElem.isModuleDir = isModule e := by
  obtain ⟨arg, body, h⟩ := C07_entry_is_directive e
  rw [h, Elem.isModuleDir]
  cases e <;> simp [Entry.dirName, isModule]

theorem C12_isModule_nameModule (modName : Str) (e : Entry) : isModule (nameModule modName e) = isModule e := by
  cases e with
  | module n d =>
    rw [nameModule]
    split <;> rfl
  | _ => rfl

theorem filter_isModuleDir_rendered (modName : Str) (l : List Entry) :
    ((l.map (nameModule modName)).map Entry.toElem).filter Elem.isModuleDir =
      ((l.filter isModule).map (nameModule modName)).map Entry.toElem := by
  rw [List.map_map, List.map_map, List.filter_map]
  congr 1
  apply List.filter_congr
  intro e _
  simp [C12_isModuleDir_toElem, C12_isModule_nameModule]

/-- the number of module directives on a page: one per module doccomment, and one if there is none -/
theorem C12_module_count (hc title modName : Str) (docs : List Entry) :
    ((processDocs hc title modName docs).body.filter Elem.isModuleDir).length =
      if docs.any isModule then (docs.filter isModule).length else 1 := by
  rw [processDocs_body, C07_renderedDocs]
  split
  · rw [filter_isModuleDir_rendered, List.length_map, List.length_map]
  · rename_i hn
    have : docs.filter isModule = [] :=
      List.filter_eq_nil_iff.2 fun e he hm => hn (List.any_eq_true.2 ⟨e, he, hm⟩)
    rw [List.map_cons, List.filter_cons_of_pos (by rw [C12_isModuleDir_toElem]; rfl), List.length_cons,
      filter_isModuleDir_rendered, this]
    rfl

/-- with at most one module doccomment (the parser accepts one only as the first token) there is exactly one
    module directive -/
theorem C12_one_module (hc title modName : Str) (docs : List Entry) (h : (docs.filter isModule).length ≤ 1) :
    ((processDocs hc title modName docs).body.filter Elem.isModuleDir).length = 1 := by
  rw [C12_module_count]
  split
  · rename_i ha
    obtain ⟨e, he, hm⟩ := List.any_eq_true.1 ha
    have : 0 < (docs.filter isModule).length := List.length_pos_of_mem (List.mem_filter.2 ⟨he, hm⟩)
    omega
  · rfl

section NoModule
variable {l : List Entry} (h : l.all (!isModule ·) = true)
include h

theorem isModule_of_mem_noModule {e : Entry} (he : e ∈ l) : isModule e = false := by
  simpa using List.all_eq_true.1 h e he

theorem any_isModule_of_noModule : l.any isModule = false := by
  simpa [List.any_eq_false] using fun e he => isModule_of_mem_noModule h he

theorem map_nameModule_of_noModule (m : Str) : l.map (nameModule m) = l :=
  (List.map_congr_left fun _ he => nameModule_of_not_isModule m (isModule_of_mem_noModule h he)).trans (List.map_id l)

theorem filter_of_noModule : l.filter (!isModule ·) = l :=
  List.filter_eq_self.2 (List.all_eq_true.1 h)

theorem renderedDocs_of_noModule (m : Str) : renderedDocs m l = .module m [] :: l := by
  rw [C07_renderedDocs, any_isModule_of_noModule h, map_nameModule_of_noModule h]
  rfl

end NoModule

/-- If a module doccomment can only be the first entry, the body is: the module directive — argument: the `@module`
    name if non-empty, else the path-derived name; content: the module doccomment's text as one paragraph, nothing
    if that text is empty — followed by the elements of exactly the non-module entries, in order. -/
theorem C12_module_first (hc title modName : Str) (docs : List Entry) (h : docs.tail.all (!isModule ·) = true) :
    (processDocs hc title modName docs).body =
      .directive (lit "module") [moduleArg modName docs] []
          (if (moduleDoc docs).isEmpty then [] else [.para (moduleDoc docs)]) ::
        (docs.filter (!isModule ·)).map Entry.toElem := by
  rw [processDocs_body, C07_renderedDocs]
  cases docs with
  | nil => rfl
  | cons e es =>
    rw [List.tail_cons] at h
    rw [List.map_cons, map_nameModule_of_noModule h, List.filter_cons, filter_of_noModule h, List.any_cons,
      any_isModule_of_noModule h, Bool.or_false]
    cases e with
    | module n d =>
      rw [nameModule_module]
      rfl
    | _ => rfl

/-- … and none of the elements after the first is a module directive -/
theorem C12_no_second_module (docs : List Entry) :
    ∀ x ∈ (docs.filter (!isModule ·)).map Entry.toElem, x.isModuleDir = false := by
  intro x hx
  obtain ⟨e, he, rfl⟩ := List.mem_map.1 hx
  rw [C12_isModuleDir_toElem]
  simpa using (List.mem_filter.1 he).2

/-- title and module name are a function of (prefix, separator, relative path, the two flags) only -/
theorem C12_names (c : WalkCfg) (pfx : Option Str) (rel : Str) :
    pageNames c pfx rel =
      (if c.extTitles then withPrefix pfx c.sep rel else dropCMakeExt (withPrefix pfx c.sep rel),
       if c.extModules then withPrefix pfx c.sep rel else dropCMakeExt (withPrefix pfx c.sep rel)) := rfl

/-- two configurations that agree on separator and flags give the same names: nothing else is consulted -/
theorem C12_names_only (c₁ c₂ : WalkCfg) (pfx : Option Str) (rel : Str) (hs : c₁.sep = c₂.sep)
    (ht : c₁.extTitles = c₂.extTitles) (hm : c₁.extModules = c₂.extModules) :
    pageNames c₁ pfx rel = pageNames c₂ pfx rel := by
  simp [pageNames, hs, ht, hm]

/-- without a prefix the names are the relative path, with a prefix `prefix ++ sep ++ path` (before the extension is
    dealt with) -/
theorem C12_withPrefix (sep rel : Str) :
    withPrefix none sep rel = rel ∧ ∀ p, withPrefix (some p) sep rel = p ++ sep ++ rel :=
  ⟨rfl, fun _ => rfl⟩

/-- `dropCMakeExt` removes exactly a trailing `.cmake` in any letter case -/
theorem C12_ext (s : Str) (h : isCMakeName s = true) :
    dropCMakeExt s ++ s.drop (s.length - 6) = s ∧ asciiLower (s.drop (s.length - 6)) = lit ".cmake" ∧
    (s.drop (s.length - 6)).length = 6 :=
  ⟨dropCMakeExt_append_ext h, ((isCMakeName_iff s).1 h).2, by
    have := ((isCMakeName_iff s).1 h).1; simp only [List.length_drop]; omega⟩

theorem C12_ext_id (s : Str) (h : isCMakeName s = false) : dropCMakeExt s = s := by
  simp [dropCMakeExt, h]

/-- `isCMakeName` is "ends in `.cmake`, letter case ignored" -/
theorem C12_isCMakeName (s : Str) :
    isCMakeName s = true ↔ 6 ≤ s.length ∧ asciiLower (s.drop (s.length - 6)) = lit ".cmake" := isCMakeName_iff s

/-- With a prefix `p`, title and module name start with `p ++ sep` — provided the relative path has at least six
    characters (true of every CMake-named file).  See `C12_prefix_counterexample` for why the proviso is needed. -/
theorem C12_prefix_partial (c : WalkCfg) (p rel : Str) (hl : 6 ≤ rel.length) :
    (p ++ c.sep).isPrefixOf (pageNames c (some p) rel).1 = true ∧
    (p ++ c.sep).isPrefixOf (pageNames c (some p) rel).2 = true := by
  simp only [pageNames, dropCMakeExt_withPrefix _ _ hl]
  simp only [withPrefix]
  constructor <;> split <;> simp [List.isPrefixOf_iff_prefix]

/-- every file the directory walk documents satisfies the proviso -/
theorem C12_prefix_cmake (c : WalkCfg) (p rel : Str) (hc : isCMakeName rel = true) :
    (p ++ c.sep).isPrefixOf (pageNames c (some p) rel).1 = true ∧
    (p ++ c.sep).isPrefixOf (pageNames c (some p) rel).2 = true :=
  C12_prefix_partial c p rel (isCMakeName_length hc)

/-- when the extension is kept the proviso is not needed -/
theorem C12_prefix_ext (c : WalkCfg) (p rel : Str) :
    (c.extTitles = true → (p ++ c.sep).isPrefixOf (pageNames c (some p) rel).1 = true) ∧
    (c.extModules = true → (p ++ c.sep).isPrefixOf (pageNames c (some p) rel).2 = true) := by
  simp only [pageNames, withPrefix]
  constructor <;> intro h <;> simp [h, List.isPrefixOf_iff_prefix]

/-- The literal claim fails for short names: prefix `a`, separator `.`, a lone input file called `cmake`:
    the title is `a`, which does not start with `a.`. -/
theorem C12_prefix_counterexample :
    (pageNames {} (some ['a']) (lit "cmake")).1 = ['a'] ∧
    (['a'] ++ ({} : WalkCfg).sep).isPrefixOf (pageNames {} (some ['a']) (lit "cmake")).1 = false := by
  repeat rw [lit_ofList]
  decide

theorem C12_withPrefix_injective (pfx : Option Str) (sep r₁ r₂ : Str)
    (h : withPrefix pfx sep r₁ = withPrefix pfx sep r₂) : r₁ = r₂ := by
  cases pfx with
  | none => exact h
  | some p => exact List.append_cancel_left h

/-- extension kept: different relative paths give different titles (module names) — no side condition -/
theorem C12_injective_ext (c : WalkCfg) (pfx : Option Str) (r₁ r₂ : Str) (hne : r₁ ≠ r₂) :
    (c.extTitles = true → (pageNames c pfx r₁).1 ≠ (pageNames c pfx r₂).1) ∧
    (c.extModules = true → (pageNames c pfx r₁).2 ≠ (pageNames c pfx r₂).2) := by
  constructor <;> intro h heq <;> simp only [pageNames, h, if_true] at heq <;>
    exact hne (C12_withPrefix_injective pfx c.sep r₁ r₂ heq)

/-- the title of a CMake-named file with the extension dropped: (prefix, separator,) stem -/
theorem C12_title_dropped (c : WalkCfg) (pfx : Option Str) (rel : Str)
    (hc : isCMakeName rel = true) :
    dropCMakeExt (withPrefix pfx c.sep rel) = withPrefix pfx c.sep (dropCMakeExt rel) ∨
    (∃ p, pfx = some p ∧ dropCMakeExt rel = c.sep ∧ dropCMakeExt (withPrefix pfx c.sep rel) = p ++ c.sep ++ c.sep) :=
  .inl (dropCMakeExt_withPrefix pfx c.sep (isCMakeName_length hc))

/-- Extension dropped: two CMake-named paths get the same title (module name) exactly when they have the same stem,
    i.e. differ at most in the letter case of the extension. -/
theorem C12_title_eq_iff (c : WalkCfg) (pfx : Option Str) (r₁ r₂ : Str)
    (hc₁ : isCMakeName r₁ = true) (hc₂ : isCMakeName r₂ = true) :
    (c.extTitles = false → ((pageNames c pfx r₁).1 = (pageNames c pfx r₂).1 ↔ dropCMakeExt r₁ = dropCMakeExt r₂)) ∧
    (c.extModules = false → ((pageNames c pfx r₁).2 = (pageNames c pfx r₂).2 ↔ dropCMakeExt r₁ = dropCMakeExt r₂)) := by
  have key : dropCMakeExt (withPrefix pfx c.sep r₁) = dropCMakeExt (withPrefix pfx c.sep r₂) ↔
      dropCMakeExt r₁ = dropCMakeExt r₂ := by
    rw [dropCMakeExt_withPrefix _ _ (isCMakeName_length hc₁), dropCMakeExt_withPrefix _ _ (isCMakeName_length hc₂)]
    exact ⟨C12_withPrefix_injective pfx c.sep _ _, congrArg _⟩
  constructor <;> intro h <;> simp only [pageNames, h, Bool.false_eq_true, if_false] <;> exact key

/-- Extension dropped: different CMake-named paths whose extensions are spelled the same way (e.g. both exactly
    `.cmake`) get different titles and module names.  This excludes precisely the known collision K4. -/
theorem C12_injective (c : WalkCfg) (pfx : Option Str) (r₁ r₂ : Str)
    (hc₁ : isCMakeName r₁ = true) (hc₂ : isCMakeName r₂ = true)
    (hext : r₁.drop (r₁.length - 6) = r₂.drop (r₂.length - 6)) (hne : r₁ ≠ r₂) :
    (pageNames c pfx r₁).1 ≠ (pageNames c pfx r₂).1 ∧ (pageNames c pfx r₁).2 ≠ (pageNames c pfx r₂).2 := by
  have hd : dropCMakeExt r₁ ≠ dropCMakeExt r₂ := fun hd => hne (eq_of_dropCMakeExt_eq hc₁ hc₂ hd hext)
  obtain ⟨k1, k2⟩ := C12_title_eq_iff c pfx r₁ r₂ hc₁ hc₂
  obtain ⟨e1, e2⟩ := C12_injective_ext c pfx r₁ r₂ hne
  constructor
  · cases ht : c.extTitles with
    | true => exact e1 ht
    | false => exact fun h => hd ((k1 ht).1 h)
  · cases hm : c.extModules with
    | true => exact e2 hm
    | false => exact fun h => hd ((k2 hm).1 h)

/-- the instance the walker's own extension test (`name.endswith(".cmake")`, lower case) describes -/
theorem C12_injective_lower (c : WalkCfg) (pfx : Option Str) (r₁ r₂ : Str)
    (hc₁ : isLowerCMakeName r₁ = true) (hc₂ : isLowerCMakeName r₂ = true) (hne : r₁ ≠ r₂) :
    (pageNames c pfx r₁).1 ≠ (pageNames c pfx r₂).1 ∧ (pageNames c pfx r₁).2 ≠ (pageNames c pfx r₂).2 :=
  C12_injective c pfx r₁ r₂ (isCMakeName_of_lower hc₁) (isCMakeName_of_lower hc₂)
    (by rw [((isLowerCMakeName_iff r₁).1 hc₁).2, ((isLowerCMakeName_iff r₂).1 hc₂).2]) hne

/-- K4: two different files, one title -/
theorem C12_K4_counterexample :
    lit "a.cmake" ≠ lit "a.CMAKE" ∧
    (pageNames {} none (lit "a.cmake")).1 = (pageNames {} none (lit "a.CMAKE")).1 ∧
    (pageNames {} none (lit "a.cmake")).2 = (pageNames {} none (lit "a.CMAKE")).2 := by
  repeat rw [lit_ofList]
  decide

/-- the other collision, possible only for a path that is not CMake-named (a lone input file; the directory walk
    never documents one): `a` and `a.cmake` -/
theorem C12_stem_collision :
    (pageNames {} none (lit "a")).1 = (pageNames {} none (lit "a.cmake")).1 := by
  repeat rw [lit_ofList]
  decide

/-- the title is the name of the last module doccomment that declares one, else the path-derived title -/
theorem C12_titleOf (title : Str) (docs : List Entry) :
    titleOf title docs = ((docs.filterMap namedModule?).getLast?).getD title := by
  induction docs generalizing title with
  | nil => rfl
  | cons e es ih =>
    cases e with
    | module n d =>
      simp only [titleOf, ih, List.filterMap_cons, namedModule?]
      split <;> simp [List.getLast?_cons]
    | _ => simp [titleOf, ih, List.filterMap_cons, namedModule?]

/-- entries that are not module doccomments do not influence the title -/
theorem C12_titleOf_no_module (title : Str) (docs : List Entry) (h : docs.all (!isModule ·) = true) :
    titleOf title docs = title := by
  have hn : docs.filterMap namedModule? = [] := List.filterMap_eq_nil_iff.2 fun e he => by
    cases e with
    | module n d => cases isModule_of_mem_noModule h he
    | _ => rfl
  rw [C12_titleOf, hn]
  rfl

/-- A file that starts with `@module n` (text `d`): `n` is both the title and the module directive's argument;
    an empty `n` leaves the path-derived title and module name in place; `d` is the module directive's content
    (one paragraph; nothing if `d` is empty); and the rest of the page is the rest of the entries. -/
theorem C12_module_doc (hc title modName n d : Str) (rest : List Entry) (h : rest.all (!isModule ·) = true) :
    let w := processDocs hc title modName (.module n d :: rest)
    w.title = (if n.isEmpty then title else n) ∧
    w.body = .directive (lit "module") [if n.isEmpty then modName else n] []
                (if d.isEmpty then [] else [.para d]) :: rest.map Entry.toElem := by
  refine ⟨C12_titleOf_no_module _ rest h, ?_⟩
  rw [C12_module_first hc title modName (.module n d :: rest) h, List.filter_cons_of_neg (by simp [isModule]),
    filter_of_noModule h]
  rfl

/-- The module doccomment's text is not attached to anything else on the page: everything after the module
    directive is what the page has without the module doccomment (the entries' elements do not depend on `d`). -/
theorem C12_module_doc_elsewhere (hc title modName n d : Str) (rest : List Entry) (h : rest.all (!isModule ·) = true) :
    (processDocs hc title modName (.module n d :: rest)).body.tail = (processDocs hc title modName rest).body.tail := by
  rw [(C12_module_doc hc title modName n d rest h).2, processDocs_body, renderedDocs_of_noModule h]
  rfl

/-! ## Non-vacuity -/

section Examples

example : (processDocs ['#'] (lit "t") (lit "m") [.module (lit "mine") (lit "about\nit"), exClass, exVar]).body =
    .directive (lit "module") [lit "mine"] [] [.para (lit "about\nit")] :: [exClass.toElem, exVar.toElem] :=
  (C12_module_doc ['#'] (lit "t") (lit "m") (lit "mine") (lit "about\nit") [exClass, exVar] (by decide)).2

example : ((processDocs ['#'] (lit "t") (lit "m") [exClass, exVar, exFunc]).body.filter Elem.isModuleDir).length = 1 :=
  C12_one_module _ _ _ _ (by decide)

example : (pageNames {} (some (lit "proj")) (lit "sub/file.cmake")) = (lit "proj.sub/file", lit "proj.sub/file") := by
  repeat rw [lit_ofList]
  decide

example : (lit "proj" ++ ({} : WalkCfg).sep).isPrefixOf (pageNames {} (some (lit "proj")) (lit "sub/file.cmake")).1 = true :=
  (C12_prefix_cmake {} _ _ (by
    rw [lit_ofList]
    decide)).1

example : (pageNames {} (some (lit "p")) (lit "a.cmake")).1 ≠ (pageNames {} (some (lit "p")) (lit "b.cmake")).1 :=
  have h : isLowerCMakeName (lit "a.cmake") = true ∧ isLowerCMakeName (lit "b.cmake") = true ∧
      lit "a.cmake" ≠ lit "b.cmake" := by
    repeat rw [lit_ofList]
    decide
  (C12_injective_lower {} _ _ _ h.1 h.2.1 h.2.2).1

-- D18: a file whose relative path equals the separator keeps its name (before the repair `a0734fb` its title was the bare prefix)
example : (pageNames { sep := lit "a.cmake", extTitles := true } (some (lit "p")) (lit "a.cmake")).1 = lit "pa.cmakea.cmake" := by
  repeat rw [lit_ofList]
  decide

end Examples

end Cminx
