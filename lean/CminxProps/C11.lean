import CminxLemmas.SpecLemmas
/-!
# C11 — test entries carry the declared name, EXPECTFAIL flag and arguments

Read off the structural specification (`Item.spec`, `CminxModel/Spec.lean`); `T_agg` says the listener computes
it.  A `ct_add_test` / `ct_add_section` declaration together with the function/macro definition that implements
it is one `Item.decl`; `add_test` is an `Item.cmd`.  `nameOk s` (part of well-formedness) = exactly one `NAME`
among the arguments, not in last position.  The arguments of a `ct_add_test` / `ct_add_section` declaration are its
single arguments (`Call.singles`); those of an `add_test` are all its arguments in source order, parenthesised
groups included (`Call.allTexts`, repair D19).  Rendering is read off `Entry.toElem` (`CminxModel/DocTypes.lean`).
-/
namespace Cminx

/-- For every argument list of the shape `pre ++ NAME :: nm :: post` with no other `NAME`, the name found is `nm`
— the argument following `NAME`, at whatever position `NAME` stands — and the remembered position is that of `NAME`. -/
theorem C11_name_decomp (pre post : List Str) (nm : Str) (h1 : lit "NAME" ∉ pre) (h2 : lit "NAME" ∉ nm :: post) :
    nameOf (pre ++ lit "NAME" :: nm :: post) = (nm, some pre.length) :=
  nameOf_decomp pre post nm h1 h2

/-- Every `nameOk` argument list has that shape (uniquely determined), so its name is the argument following
`NAME`; and `ctestParams` (the `add_test` signature) is everything but that pair, in order. -/
theorem C11_name (s : List Str) (h : nameOk s = true) :
    ∃ pre nm post, s = pre ++ lit "NAME" :: nm :: post ∧ lit "NAME" ∉ pre ∧ lit "NAME" ∉ nm :: post ∧
      nameOf s = (nm, some pre.length) ∧ ctestParams s = pre ++ post := by
  obtain ⟨pre, nm, post, hs, h1, h2⟩ := nameOk_decomp s h
  exact ⟨pre, nm, post, hs, h1, h2, hs ▸ nameOf_decomp pre post nm h1 h2, hs ▸ ctestParams_decomp pre post nm h1 h2⟩

theorem C11_nameOk_of_decomp (pre post : List Str) (nm : Str) (h1 : lit "NAME" ∉ pre) (h2 : lit "NAME" ∉ nm :: post) :
    nameOk (pre ++ lit "NAME" :: nm :: post) = true := by
  simp only [nameOk, Bool.and_eq_true, beq_iff_eq, bne_iff_ne]
  constructor
  · rw [List.count_append, List.count_cons_self, List.count_eq_zero_of_not_mem h1, List.count_eq_zero_of_not_mem h2]
  · -- the last argument is the last of `nm :: post`
    rw [List.getLast?_append, List.getLast?_cons_cons]
    intro hh
    exact h2 (List.mem_of_getLast? (by simpa using hh))

/-- the signature of an `add_test`: all arguments other than `NAME` and the name at the position after it, in
order; an argument elsewhere that happens to equal the name stays -/
theorem C11_addtest_sig (pre post : List Str) (nm : Str) (h1 : lit "NAME" ∉ pre) (h2 : lit "NAME" ∉ nm :: post) :
    ctestParams (pre ++ lit "NAME" :: nm :: post) = pre ++ post :=
  ctestParams_decomp pre post nm h1 h2

/-- the flag is exact membership of the keyword among the single arguments (no substring, no other letter case) -/
theorem C11_expectfail_iff (s : List Str) : s.contains (lit "EXPECTFAIL") = true ↔ lit "EXPECTFAIL" ∈ s := by
  simp

/-- A `ct_add_test` declaration (documented, or `include_undocumented_ct_add_test` on) with its implementing
definition contributes one test entry — named by `nameOf`, flagged by exact membership of `EXPECTFAIL` — and
then whatever the body of the implementing definition contributes.  No entry for the implementing definition. -/
theorem C11_test (cfg : Cfg) (ctx : ClsCtx) (doc : Option DocC) (d impl : Call) (body : List Item) (c : Call)
    (hn : d.lname = lit "ct_add_test") (hincl : doc.isSome = true ∨ cfg.inclCtAddTest = true) :
    (Item.decl doc d impl body c).spec cfg ctx =
      { top := [.test false (nameOf d.singles).1 (docTextOf doc) (d.singles.contains (lit "EXPECTFAIL"))
                  (impl.singles.drop 2) (impl.lname = lit "macro")] } ++ itemsSpec cfg ctx body := by
  rw [spec_decl_test cfg ctx doc d impl body c false hn, if_pos (by exact hincl)]

theorem C11_section (cfg : Cfg) (ctx : ClsCtx) (doc : Option DocC) (d impl : Call) (body : List Item) (c : Call)
    (hn : d.lname = lit "ct_add_section") (hincl : doc.isSome = true ∨ cfg.inclCtAddSection = true) :
    (Item.decl doc d impl body c).spec cfg ctx =
      { top := [.test true (nameOf d.singles).1 (docTextOf doc) (d.singles.contains (lit "EXPECTFAIL"))
                  (impl.singles.drop 2) (impl.lname = lit "macro")] } ++ itemsSpec cfg ctx body := by
  rw [spec_decl_test cfg ctx doc d impl body c true hn, if_pos (by exact hincl)]

/-- For a test (`isSection = false`) or section declaration that has an entry: the entry's EXPECTFAIL flag is
exact membership of the keyword among the declaration's single arguments — an argument merely containing the
keyword (`xEXPECTFAIL`) or spelling it in another case (`expectfail`) does not count. -/
theorem C11_expectfail (cfg : Cfg) (ctx : ClsCtx) (doc : Option DocC) (d impl : Call) (body : List Item) (c : Call)
    (isSection : Bool)
    (hn : d.lname = if isSection then lit "ct_add_section" else lit "ct_add_test")
    (hincl : doc.isSome = true ∨ (if isSection then cfg.inclCtAddSection else cfg.inclCtAddTest) = true) :
    ((Item.decl doc d impl body c).spec cfg ctx).top =
        .test isSection (nameOf d.singles).1 (docTextOf doc) (d.singles.contains (lit "EXPECTFAIL"))
          (impl.singles.drop 2) (impl.lname = lit "macro") :: (itemsSpec cfg ctx body).top ∧
      (d.singles.contains (lit "EXPECTFAIL") = true ↔ lit "EXPECTFAIL" ∈ d.singles) := by
  refine ⟨?_, C11_expectfail_iff _⟩
  rw [spec_decl_test cfg ctx doc d impl body c isSection hn, if_pos hincl]
  rfl

/-- the test/section entry of a declaration whose arguments are `pre ++ NAME :: nm :: post`: it is named `nm`,
its flag is `true` iff `EXPECTFAIL` is one of the arguments, and the entries of the body (the sections of a test,
among others) follow it -/
theorem C11_test_named (cfg : Cfg) (ctx : ClsCtx) (doc : Option DocC) (d impl : Call) (body : List Item) (c : Call)
    (isSection : Bool) (pre post : List Str) (nm : Str)
    (hn : d.lname = if isSection then lit "ct_add_section" else lit "ct_add_test")
    (hincl : doc.isSome = true ∨ (if isSection then cfg.inclCtAddSection else cfg.inclCtAddTest) = true)
    (hs : d.singles = pre ++ lit "NAME" :: nm :: post) (h1 : lit "NAME" ∉ pre) (h2 : lit "NAME" ∉ nm :: post) :
    ∃ ef, (ef = true ↔ lit "EXPECTFAIL" ∈ d.singles) ∧
      ((Item.decl doc d impl body c).spec cfg ctx).top =
        .test isSection nm (docTextOf doc) ef (impl.singles.drop 2) (impl.lname = lit "macro") ::
          (itemsSpec cfg ctx body).top := by
  have hname : (nameOf d.singles).1 = nm := by rw [hs, nameOf_decomp pre post nm h1 h2]
  refine ⟨d.singles.contains (lit "EXPECTFAIL"), C11_expectfail_iff _, ?_⟩
  rw [spec_decl_test cfg ctx doc d impl body c isSection hn, if_pos hincl, hname]
  rfl

/-- An `add_test` (documented, or `include_undocumented_add_test` on) contributes one CTest entry named by
`nameOf` whose parameters are `ctestParams`. -/
theorem C11_addtest (cfg : Cfg) (ctx : ClsCtx) (doc : Option DocC) (call : Call)
    (hn : call.lname = lit "add_test") (hincl : doc.isSome = true ∨ cfg.inclAddTest = true) :
    (Item.cmd doc call).spec cfg ctx =
      { top := [.ctest (nameOf call.allTexts).1 (docTextOf doc) (ctestParams call.allTexts)] } := by
  rw [spec_cmd_add_test cfg ctx doc call hn, if_pos hincl]

/-- with the arguments `pre ++ NAME :: nm :: post`: named `nm`, signature `pre ++ post` -/
theorem C11_addtest_named (cfg : Cfg) (ctx : ClsCtx) (doc : Option DocC) (call : Call) (pre post : List Str) (nm : Str)
    (hn : call.lname = lit "add_test") (hincl : doc.isSome = true ∨ cfg.inclAddTest = true)
    (hs : call.allTexts = pre ++ lit "NAME" :: nm :: post) (h1 : lit "NAME" ∉ pre) (h2 : lit "NAME" ∉ nm :: post) :
    (Item.cmd doc call).spec cfg ctx = { top := [.ctest nm (docTextOf doc) (pre ++ post)] } := by
  rw [C11_addtest cfg ctx doc call hn hincl, hs, nameOf_decomp pre post nm h1 h2, ctestParams_decomp pre post nm h1 h2]

/-- The repaired `add_test` (D19), at the level of a call.  `call.allTexts` are ALL arguments of the call in source
order, each in its `argument_text` form — a parenthesised group `(a b)` is one argument, exactly as in the
signature of a generic command.  If they are `pre ++ NAME :: nm :: post` with no other `NAME`, then the command is
well-formed (so `T_agg` applies: the listener computes the specification, no error is logged) and its entry —
when documented, or undocumented with `include_undocumented_add_test` — is the CTest test named `nm` whose
signature is every other argument, groups included, in order. -/
theorem C11_addtest_all_args (cfg : Cfg) (ctx : ClsCtx) (inClass : Bool) (doc : Option DocC) (call : Call)
    (pre post : List Str) (nm : Str)
    (hn : call.lname = lit "add_test") (hincl : doc.isSome = true ∨ cfg.inclAddTest = true)
    (hs : call.allTexts = pre ++ lit "NAME" :: nm :: post) (h1 : lit "NAME" ∉ pre) (h2 : lit "NAME" ∉ nm :: post) :
    (Item.cmd doc call).wf inClass = true ∧
      (Item.cmd doc call).spec cfg ctx = { top := [.ctest nm (docTextOf doc) (pre ++ post)] } := by
  refine ⟨?_, C11_addtest_named cfg ctx doc call pre post nm hn hincl hs h1 h2⟩
  have hok := C11_nameOk_of_decomp pre post nm h1 h2
  simp [Item.wf, hn, hs, hok, structuralNames]
  omega

theorem signature_expectfail (name : Str) (ef : Bool) :
    signature name [if ef then lit "EXPECTFAIL" else []] = name ++ (if ef then lit "(EXPECTFAIL)" else lit "()") := by
  rw [signature_eq]
  cases ef <;> simp [lit]

/-- a CMakeTest test: `.. function:: name(EXPECTFAIL)` or `name()`, the CMakeTest-test warning, the doc -/
theorem C11_warnings_test (name doc : Str) (ef : Bool) (ps : List Str) (m : Bool) :
    (Entry.test false name doc ef ps m).toElem =
      .directive (lit "function") [name ++ (if ef then lit "(EXPECTFAIL)" else lit "()")] []
        [.directive (lit "warning") [testWarning] [] [], .para doc] := by
  rw [Entry.toElem, signature_expectfail]
  simp

/-- a CMakeTest section: same signature, the CMakeTest-section warning -/
theorem C11_warnings_section (name doc : Str) (ef : Bool) (ps : List Str) (m : Bool) :
    (Entry.test true name doc ef ps m).toElem =
      .directive (lit "function") [name ++ (if ef then lit "(EXPECTFAIL)" else lit "()")] []
        [.directive (lit "warning") [sectionWarning] [] [], .para doc] := by
  rw [Entry.toElem, signature_expectfail]
  simp

/-- a CTest test: `.. function:: name(p₁ p₂ …)` with all its parameters in order, the CTest warning -/
theorem C11_warnings_ctest (name doc : Str) (params : List Str) :
    (Entry.ctest name doc params).toElem =
      .directive (lit "function") [name ++ lit "(" ++ joinWith [' '] params ++ lit ")"] []
        [.directive (lit "warning") [ctestWarning] [] [], .para doc] := by
  rw [Entry.toElem, signature_eq]

theorem C11_warnings (name doc : Str) (ef : Bool) (ps params : List Str) (m : Bool) :
    (Entry.test false name doc ef ps m).toElem =
      .directive (lit "function") [name ++ (if ef then lit "(EXPECTFAIL)" else lit "()")] []
        [.directive (lit "warning") [testWarning] [] [], .para doc] ∧
    (Entry.test true name doc ef ps m).toElem =
      .directive (lit "function") [name ++ (if ef then lit "(EXPECTFAIL)" else lit "()")] []
        [.directive (lit "warning") [sectionWarning] [] [], .para doc] ∧
    (Entry.ctest name doc params).toElem =
      .directive (lit "function") [name ++ lit "(" ++ joinWith [' '] params ++ lit ")"] []
        [.directive (lit "warning") [ctestWarning] [] [], .para doc] :=
  ⟨C11_warnings_test name doc ef ps m, C11_warnings_section name doc ef ps m, C11_warnings_ctest name doc params⟩

/-- the three warnings are the documented texts and pairwise different -/
theorem C11_warning_texts :
    testWarning = lit "This is a CMakeTest test definition, do not call this manually." ∧
    sectionWarning = lit "This is a CMakeTest section definition, do not call this manually." ∧
    ctestWarning = lit "This is a CTest test definition, do not call this manually. Use the \"ctest\" program to execute this test." ∧
    testWarning ≠ sectionWarning ∧ testWarning ≠ ctestWarning ∧ sectionWarning ≠ ctestWarning :=
  by simp [testWarning, sectionWarning, ctestWarning]

/-- A section declared in the body of a test's function (after `pre`, before `post`) yields its own section
entry: after the test's entry and the entries of `pre`, before those of the section's own body (nested
sections) and of `post` — source order. -/
theorem C11_sections (cfg : Cfg) (ctx : ClsCtx) (doc sdoc : Option DocC) (d impl c sd simpl sc : Call)
    (pre post sbody : List Item)
    (hn : d.lname = lit "ct_add_test") (hincl : doc.isSome = true ∨ cfg.inclCtAddTest = true)
    (hsn : sd.lname = lit "ct_add_section") (hsincl : sdoc.isSome = true ∨ cfg.inclCtAddSection = true) :
    ((Item.decl doc d impl (pre ++ .decl sdoc sd simpl sbody sc :: post) c).spec cfg ctx).top =
      .test false (nameOf d.singles).1 (docTextOf doc) (d.singles.contains (lit "EXPECTFAIL"))
          (impl.singles.drop 2) (impl.lname = lit "macro") ::
        ((itemsSpec cfg ctx pre).top ++
          .test true (nameOf sd.singles).1 (docTextOf sdoc) (sd.singles.contains (lit "EXPECTFAIL"))
              (simpl.singles.drop 2) (simpl.lname = lit "macro") ::
            ((itemsSpec cfg ctx sbody).top ++ (itemsSpec cfg ctx post).top)) := by
  rw [C11_test cfg ctx doc d impl _ c hn hincl, itemsSpec_append, itemsSpec_cons,
    C11_section cfg ctx sdoc sd simpl sbody sc hsn hsincl]
  simp

/-- the same one level down: a section nested in a section -/
theorem C11_sections_nested (cfg : Cfg) (ctx : ClsCtx) (doc sdoc : Option DocC) (d impl c sd simpl sc : Call)
    (pre post sbody : List Item)
    (hn : d.lname = lit "ct_add_section") (hincl : doc.isSome = true ∨ cfg.inclCtAddSection = true)
    (hsn : sd.lname = lit "ct_add_section") (hsincl : sdoc.isSome = true ∨ cfg.inclCtAddSection = true) :
    ((Item.decl doc d impl (pre ++ .decl sdoc sd simpl sbody sc :: post) c).spec cfg ctx).top =
      .test true (nameOf d.singles).1 (docTextOf doc) (d.singles.contains (lit "EXPECTFAIL"))
          (impl.singles.drop 2) (impl.lname = lit "macro") ::
        ((itemsSpec cfg ctx pre).top ++
          .test true (nameOf sd.singles).1 (docTextOf sdoc) (sd.singles.contains (lit "EXPECTFAIL"))
              (simpl.singles.drop 2) (simpl.lname = lit "macro") ::
            ((itemsSpec cfg ctx sbody).top ++ (itemsSpec cfg ctx post).top)) := by
  rw [C11_section cfg ctx doc d impl _ c hn hincl, itemsSpec_append, itemsSpec_cons,
    C11_section cfg ctx sdoc sd simpl sbody sc hsn hsincl]
  simp

/-! ## non-vacuity -/

example : nameOk [lit "NAME", lit "t", lit "xEXPECTFAIL"] = true := by decide +kernel
example : [lit "NAME", lit "t", lit "xEXPECTFAIL"].contains (lit "EXPECTFAIL") = false := by decide +kernel
example : [lit "NAME", lit "t", lit "expectfail"].contains (lit "EXPECTFAIL") = false := by decide +kernel
example : [lit "EXPECTFAIL", lit "NAME", lit "t"].contains (lit "EXPECTFAIL") = true := by decide +kernel

/-- `NAME` in the middle; an argument equal to the name elsewhere stays in the signature -/
example : nameOf [lit "t", lit "NAME", lit "t", lit "COMMAND", lit "t"] = (lit "t", some 1) :=
  C11_name_decomp [lit "t"] [lit "COMMAND", lit "t"] (lit "t") (by decide +kernel) (by decide +kernel)
example : ctestParams [lit "t", lit "NAME", lit "t", lit "COMMAND", lit "t"] = [lit "t", lit "COMMAND", lit "t"] :=
  C11_addtest_sig [lit "t"] [lit "COMMAND", lit "t"] (lit "t") (by decide +kernel) (by decide +kernel)

/-- a documented test with an undocumented EXPECTFAIL section and a following command in its body -/
def exTest : Item :=
  .decl (some (mkDoc "" ["A test."])) (mkCall "CT_ADD_TEST" ["NAME", "t1"]) (mkCall "function" ["${t1}"])
    [ .cmd none (mkCall "message" ["hi"]),
      .decl none (mkCall "ct_add_section" ["EXPECTFAIL", "NAME", "s1"]) (mkCall "macro" ["${s1}"])
        [] (mkCall "endmacro" []),
      .cmd (some (mkDoc "" ["Documented call."])) (mkCall "message" ["bye"]) ]
    (mkCall "endfunction" [])

example : (exTest.spec {} .none).top =
    [.test false (lit "t1") (docTextOf (some (mkDoc "" ["A test."]))) false [] false,
     .test true (lit "s1") [] true [] true,
     .generic (lit "message") (docTextOf (some (mkDoc "" ["Documented call."]))) [lit "bye"]] := by
  refine Eq.trans (C11_sections {} .none (some (mkDoc "" ["A test."])) none (mkCall "CT_ADD_TEST" ["NAME", "t1"])
    (mkCall "function" ["${t1}"]) (mkCall "endfunction" []) (mkCall "ct_add_section" ["EXPECTFAIL", "NAME", "s1"])
    (mkCall "macro" ["${s1}"]) (mkCall "endmacro" []) [.cmd none (mkCall "message" ["hi"])]
    [.cmd (some (mkDoc "" ["Documented call."])) (mkCall "message" ["bye"])] []
    (by decide +kernel) (Or.inl rfl) (by decide +kernel) (Or.inr rfl)) ?_
  decide +kernel

example : (Item.cmd none (mkCall "add_test" ["NAME", "t", "COMMAND", "run", "t"])).spec {} .none =
    { top := [.ctest (lit "t") [] [lit "COMMAND", lit "run", lit "t"]] } :=
  C11_addtest_named {} .none none _ [] [lit "COMMAND", lit "run", lit "t"] (lit "t") (by decide +kernel) (Or.inr rfl)
    (by decide +kernel) (by decide +kernel) (by decide +kernel)

/-- `add_test(NAME comp COMMAND foo (a b) c)`: a parenthesised group among the arguments -/
def exGroupCall : Call :=
  { pre := [.nl false], name := "add_test".toList, sp := 0,
    args := [.tok [] (.bare (lit "NAME")), .tok [.spaces 1] (.bare (lit "comp")),
             .tok [.spaces 1] (.bare (lit "COMMAND")), .tok [.spaces 1] (.bare (lit "foo")),
             .group [.spaces 1] [.tok [] (.bare (lit "a")), .tok [.spaces 1] (.bare (lit "b"))] [],
             .tok [.spaces 1] (.bare (lit "c"))],
    close := [] }

example : exGroupCall.render = lit "\nadd_test(NAME comp COMMAND foo (a b) c)" := eq_lit_of (by decide +kernel)
example : exGroupCall.allTexts =
    [lit "NAME", lit "comp", lit "COMMAND", lit "foo", lit "(a b)", lit "c"] := by decide +kernel
/-- the single arguments alone (what was read before the repair) miss the group -/
example : exGroupCall.singles = [lit "NAME", lit "comp", lit "COMMAND", lit "foo", lit "c"] := by decide +kernel

/-- the group is part of the signature, at its place -/
example : ((Item.cmd none exGroupCall).spec {} .none).top =
    [.ctest (lit "comp") [] [lit "COMMAND", lit "foo", lit "(a b)", lit "c"]] := by decide +kernel

example : (Item.cmd none exGroupCall).wf false = true ∧
    (Item.cmd none exGroupCall).spec {} .none =
      { top := [.ctest (lit "comp") [] [lit "COMMAND", lit "foo", lit "(a b)", lit "c"]] } :=
  C11_addtest_all_args {} .none false none exGroupCall [] [lit "COMMAND", lit "foo", lit "(a b)", lit "c"] (lit "comp")
    (by decide +kernel) (Or.inr rfl) (by decide +kernel) (by decide +kernel) (by decide +kernel)

end Cminx
