import CminxLemmas.WalkLemmas
/-!
# C18 — pages go only where requested

Model: `CminxModel/Walk.lean`.  Paths of writes are relative to the output directory, so "a run creates or
modifies files only inside that directory" is carried by the type of `Write.path` together with the
correspondence check (the harness diffs the whole sandbox); the substantive statements proved here are

* `C18_none*`              — without an output directory (`toStdout`) nothing is written, whatever happens
                             (errors included), for `emitPage`, `walkDir`, `document`, `runMain`;
* `C18_file_mode_silent*`  — with an output directory nothing is printed;
* `C18_stdout`             — in stdout mode standard output is exactly the pages of the processed CMake files
                             (`pagesOf`: directory by directory in walk order, sorted by name inside a directory),
                             each followed by `"\n\n"` (the page's own final newline plus one empty line), and
                             nothing else (no index pages);
* `C18_same_pages`         — in file mode the writes are exactly the layout (each processed directory: its index,
                             then its pages in sorted order, then its surviving sub-directories in listing order),
                             and the sub-list of page writes is `pagesOf` mapped to (path, text);
* `C18_page_mode_irrelevant`, `C18_stdout_eq_file` — the text printed for a file is byte for byte the content
                             written for it with `-o`.

Hypotheses used: `treeOk listing` (sub-directory names of one directory are distinct — always true of a real
directory tree; the model's name lookup `keepDir` is ambiguous otherwise), "every page renders" and, in file
mode, `c.headers ≠ []`.  What happens otherwise (first error stops the run) is `C13_error_stops`.
-/
namespace Cminx

theorem C18_none {c : WalkCfg} (h : c.toStdout = true) (excl : List Str → Bool → Bool) (pfx : Str)
    (rel : List Str) (listing : List FsNode) (r : RunResult) :
    (walkDir c excl pfx rel listing r).writes = r.writes := by
  rw [walkDir_eq, runItems_writes_of_stdout h]

theorem C18_none_emitPage {c : WalkCfg} (h : c.toStdout = true) (pfx : Option Str) (rel : List Str)
    (name content : Str) (r : RunResult) : (emitPage c pfx rel name content r).writes = r.writes := by
  unfold emitPage
  split
  · rfl
  · split
    · rfl
    · simp

theorem C18_none_document {c : WalkCfg} (h : c.toStdout = true) (excl : List Str → Bool → Bool) (exclRoot : Bool)
    (inp : Input) (r : RunResult) : (document c excl exclRoot inp r).1.writes = r.writes := by
  unfold document
  cases exclRoot
  · cases inp with
    | missing n => rfl
    | special n => rfl
    | file name content => exact C18_none_emitPage h ..
    | dir name listing => exact C18_none h ..
  · rfl

theorem C18_none_runMain {c : WalkCfg} (h : c.toStdout = true) (is : List MainInput) (r : RunResult) :
    (runMain c is r).1.writes = r.writes := by
  induction is generalizing r with
  | nil => rfl
  | cons i is ih =>
    cases he : r.error with
    | some e => rw [runMain_of_error he]
    | none =>
      rw [runMain_cons he]
      split
      · exact C18_none_document h ..
      · rw [ih, C18_none_document h]

theorem C18_file_mode_silent {c : WalkCfg} (h : c.toStdout = false) (excl : List Str → Bool → Bool) (pfx : Str)
    (rel : List Str) (listing : List FsNode) (r : RunResult) :
    (walkDir c excl pfx rel listing r).stdout = r.stdout := by
  rw [walkDir_eq, runItems_stdout_of_file h]

theorem C18_file_mode_silent_emitPage {c : WalkCfg} (h : c.toStdout = false) (pfx : Option Str) (rel : List Str)
    (name content : Str) (r : RunResult) : (emitPage c pfx rel name content r).stdout = r.stdout := by
  unfold emitPage
  split
  · rfl
  · split
    · rfl
    · simp [h]

theorem C18_file_mode_silent_document {c : WalkCfg} (h : c.toStdout = false) (excl : List Str → Bool → Bool)
    (exclRoot : Bool) (inp : Input) (r : RunResult) : (document c excl exclRoot inp r).1.stdout = r.stdout := by
  unfold document
  cases exclRoot
  · cases inp with
    | missing n => rfl
    | special n => rfl
    | file name content => exact C18_file_mode_silent_emitPage h ..
    | dir name listing => exact C18_file_mode_silent h ..
  · rfl

theorem C18_file_mode_silent_runMain {c : WalkCfg} (h : c.toStdout = false) (is : List MainInput) (r : RunResult) :
    (runMain c is r).1.stdout = r.stdout := by
  induction is generalizing r with
  | nil => rfl
  | cons i is ih =>
    cases he : r.error with
    | some e => rw [runMain_of_error he]
    | none =>
      rw [runMain_cons he]
      split
      · exact C18_file_mode_silent_document h ..
      · rw [ih, C18_file_mode_silent_document h]

/-- Stdout mode, error-free: standard output grows by exactly the processed pages, in processing order, each
    followed by `"\n\n"`; nothing is written and no error is recorded. -/
theorem C18_stdout {c : WalkCfg} {excl : List Str → Bool → Bool} {pfx : Str} {rel : List Str}
    {listing : List FsNode} {r : RunResult}
    (hs : c.toStdout = true) (htree : treeOk listing = true) (hr : r.error = none)
    (hp : ∀ p ∈ pagesOf c excl rel listing, (page c (some pfx) (relPath p) p.2.2).isOk = true) :
    (walkDir c excl pfx rel listing r).stdout =
        r.stdout ++ ((pagesOf c excl rel listing).map (fun p => pageText c pfx p ++ ['\n', '\n'])).flatten ∧
      (walkDir c excl pfx rel listing r).writes = r.writes ∧
      (walkDir c excl pfx rel listing r).error = none := by
  rw [walkDir_eq_layout htree, runItems_ok hr (items_ok (.inl hs) hp)]
  simp [ranOk, hs, printed_flatten, pagesOf]

/-- the same for a lone file: one page, one empty line -/
theorem C18_stdout_file {c : WalkCfg} (hs : c.toStdout = true) (excl : List Str → Bool → Bool) (name content : Str)
    (r : RunResult) (hr : r.error = none) {text : Str} (hp : page c c.pfx name content = .ok text) :
    (document c excl false (.file name content) r).1 =
      { writes := r.writes, stdout := r.stdout ++ text ++ ['\n', '\n'], error := none } := by
  simp [document, emitPage, hr, hp, hs]

/-- File mode, error-free: the writes are exactly the layout, in layout order — for every processed directory its
    `index.rst`, then its pages in sorted name order, then (with `-r`) the same for its surviving
    sub-directories in listing order — and the page writes among them are exactly `pagesOf`, in the same order,
    at `<dir>/<stem>.rst` with the page text; the remaining writes are the indexes. -/
theorem C18_same_pages {c : WalkCfg} {excl : List Str → Bool → Bool} {pfx : Str} {rel : List Str}
    {listing : List FsNode} {r : RunResult}
    (hf : c.toStdout = false) (htree : treeOk listing = true) (hr : r.error = none) (hh : c.headers ≠ [])
    (hp : ∀ p ∈ pagesOf c excl rel listing, (page c (some pfx) (relPath p) p.2.2).isOk = true) :
    (walkDir c excl pfx rel listing r).writes =
        r.writes ++ (layoutOf c excl rel listing).map (WItem.write c pfx) ∧
      ((layoutOf c excl rel listing).filter WItem.isPage).map (WItem.write c pfx) =
        (pagesOf c excl rel listing).map (fun p => (⟨pagePath p, pageText c pfx p⟩ : Write)) ∧
      ((layoutOf c excl rel listing).filter (fun it => !it.isPage)).map (WItem.write c pfx) =
        (indexesOf c excl rel listing).map
          (fun d => (⟨indexPath d, okText (indexPage c pfx d.1 d.2.1 d.2.2)⟩ : Write)) ∧
      (walkDir c excl pfx rel listing r).stdout = r.stdout ∧
      (walkDir c excl pfx rel listing r).error = none := by
  rw [walkDir_file_ok hf htree hr hh hp]
  exact ⟨rfl, page_writes _, index_writes _, rfl, rfl⟩

/-- the page text does not depend on the output mode -/
theorem C18_page_mode_irrelevant (c : WalkCfg) (b : Bool) : page { c with toStdout := b } = page c := rfl

/-- neither does the text of any item, nor the layout -/
theorem C18_text_mode_irrelevant (c : WalkCfg) (b : Bool) (pfx : Str) (it : WItem) :
    it.text { c with toStdout := b } pfx = it.text c pfx := by
  cases it <;> rfl

theorem C18_layout_mode_irrelevant (c : WalkCfg) (b : Bool) (excl : List Str → Bool → Bool) (rel : List Str)
    (listing : List FsNode) : layoutOf { c with toStdout := b } excl rel listing = layoutOf c excl rel listing :=
  layoutOf_congr (c := { c with toStdout := b }) (c' := c) rfl rfl listing rel

/-- Same invocation with and without `-o`: with `W` the writes the `-o` run adds and `P` the sub-list of `W`
    that belongs to CMake files, the run without `-o` prints exactly the contents of `P`, in the same order, each
    followed by one empty line. -/
theorem C18_stdout_eq_file {c : WalkCfg} {excl : List Str → Bool → Bool} {pfx : Str} {rel : List Str}
    {listing : List FsNode} {r₁ r₂ : RunResult}
    (htree : treeOk listing = true) (hr₁ : r₁.error = none) (hr₂ : r₂.error = none) (hh : c.headers ≠ [])
    (hp : ∀ p ∈ pagesOf c excl rel listing, (page c (some pfx) (relPath p) p.2.2).isOk = true) :
    (walkDir { c with toStdout := false } excl pfx rel listing r₂).writes =
        r₂.writes ++ (layoutOf c excl rel listing).map (WItem.write c pfx) ∧
      (walkDir { c with toStdout := true } excl pfx rel listing r₁).stdout =
        r₁.stdout ++ ((((layoutOf c excl rel listing).filter WItem.isPage).map (WItem.write c pfx)).map
          (fun w => w.content ++ ['\n', '\n'])).flatten := by
  have hl b : layoutOf { c with toStdout := b } excl rel listing = layoutOf c excl rel listing :=
    C18_layout_mode_irrelevant ..
  have hw b : WItem.write { c with toStdout := b } pfx = WItem.write c pfx :=
    funext fun it => by simp only [WItem.write, WItem.textD, C18_text_mode_irrelevant]
  constructor
  · rw [(C18_same_pages (c := { c with toStdout := false }) rfl htree hr₂ hh (by rwa [pagesOf, hl])).1, hl, hw]
  · rw [(C18_stdout (c := { c with toStdout := true }) rfl htree hr₁ (by rwa [pagesOf, hl])).1, page_writes, pagesOf, hl,
      List.map_map]
    rfl

/-- a special file (socket, FIFO, device) and a path that does not exist write nothing and print nothing -/
theorem C18_special_missing (c : WalkCfg) (excl : List Str → Bool → Bool) (exclRoot : Bool) (n : Str) (r : RunResult) :
    (document c excl exclRoot (.special n) r).1 = r ∧ (document c excl exclRoot (.missing n) r).1 = r := by
  unfold document
  cases exclRoot <;> simp

/-! ## Non-vacuity: the example tree of `WalkSpec.lean`

Two levels below the top (`sub/deep`), an excluded file (`skip.cmake`) and directory (`hidden`), a non-CMake file
(`readme.txt`), a mixed-case extension (`A.CMake`), auto-excluded directories (`sub/nocmake`, `upper`), and a
listing order (`b.cmake` before `A.CMake`) that differs from the sorted order. -/

example : (walkDir exCfgOut exExcl (lit "P") [] exTree {}).writes = [] :=
  C18_none (c := exCfgOut) rfl exExcl (lit "P") [] exTree {}
example : (runMain exCfgOut [⟨.dir (lit "P") exTree, exExcl, false⟩, ⟨.file (lit "x.cmake") [], exExcl, false⟩] {}).1.writes = [] :=
  C18_none_runMain (c := exCfgOut) rfl _ {}
example : (walkDir exCfg exExcl (lit "P") [] exTree {}).stdout = [] :=
  C18_file_mode_silent (c := exCfg) rfl exExcl (lit "P") [] exTree {}

-- stdout mode prints the four pages, sorted inside a directory, each followed by an empty line; no index
set_option maxRecDepth 8192 in
example : (walkDir exCfgOut exExcl (lit "P") [] exTree {}).stdout = lit
    "\n###\nP.A\n###\n\n.. module:: P.A\n\n\n\n\n###\nP.b\n###\n\n.. module:: P.b\n\n\n.. function:: f()\n\n   doc\n   \n\n\n\n\n#######\nP.sub/c\n#######\n\n.. module:: P.sub/c\n\n\n\n\n############\nP.sub/deep/d\n############\n\n.. module:: P.sub/deep/d\n\n\n\n" := by
  -- the page texts do not depend on the mode: they are those of `ex_pages_rendered`
  rw [(C18_stdout (c := exCfgOut) rfl ex_treeOk rfl ex_ok_out).1, ex_pages_out,
    show (fun p => pageText exCfgOut (lit "P") p ++ ['\n', '\n']) = (· ++ ['\n', '\n']) ∘ pageText exCfg (lit "P") from rfl,
    ← List.map_map, ex_pages_rendered.2, lit_ofList, lit_ofList, lit_ofList, lit_ofList]
  exact eq_lit_of rfl

set_option maxRecDepth 8192 in
example : (walkDir exCfg exExcl (lit "P") [] exTree {}).writes.map (·.path) =
    [[lit "index.rst"], [lit "A.rst"], [lit "b.rst"], [lit "sub", lit "index.rst"], [lit "sub", lit "c.rst"],
     [lit "sub", lit "deep", lit "index.rst"], [lit "sub", lit "deep", lit "d.rst"]] := by
  rw [(C18_same_pages (c := exCfg) rfl ex_treeOk rfl (by decide) ex_ok).1, ex_layout, List.map_append, List.map_map]
  exact ex_paths

set_option maxRecDepth 8192 in
example : (walkDir exCfg exExcl (lit "P") [] exTree {}).writes[2]? =
    some ⟨[lit "b.rst"], lit "\n###\nP.b\n###\n\n.. module:: P.b\n\n\n.. function:: f()\n\n   doc\n   \n\n"⟩ := by
  rw [(C18_same_pages (c := exCfg) rfl ex_treeOk rfl (by decide) ex_ok).1, ex_layout, ← ex_write_b]
  rfl

example : ∀ r₁ r₂ : RunResult, r₁.error = none → r₂.error = none →
    (walkDir { exCfg with toStdout := true } exExcl (lit "P") [] exTree r₁).stdout =
      r₁.stdout ++ ((((layoutOf exCfg exExcl [] exTree).filter WItem.isPage).map (WItem.write exCfg (lit "P"))).map
        (fun w => w.content ++ ['\n', '\n'])).flatten :=
  fun _ _ h₁ h₂ => (C18_stdout_eq_file ex_treeOk h₁ h₂ (by decide) ex_ok).2

end Cminx
