import CminxProps.C05
import CminxProps.C02
import CminxProps.C01
/-!
# C04 — the generated reST does not depend on layout

A source file is the printed text `Module.render` of a decorated module (`CminxModel/Source.lean`): the tree
carries every inter-token separator (`Sep`: blanks, tabs, line breaks LF/CRLF, line comments, bracket comments —
before every command name, before every argument, before every `)`, before every doccomment, at the end of the
file), the indentation of every doccomment block, the spelling of every command name and the byte-order mark.

* `C04_token_sequence` — two valid modules with the same significant token sequence (`Module.sigToks`) give the
  same page, the same error, or the same anything: the pipeline reads the text through the significant tokens
  only (`C04_same_significant`, for arbitrary texts).  No balance or K1 hypothesis.
* `C04_layout` — two valid modules that are `LayoutVariant`s of each other (same tree shape, corresponding commands
  with the same lower-cased name and the same parse-tree arguments, corresponding doccomments with the same
  *cleaned* text) give the same page.  Composition of `T_pipeline` (`C05.lean`) with the invariance of the
  structural specification.  Everything `LayoutVariant` does not mention is free: all separators, all comments,
  the letter case of command names, the indentation of doccomment blocks, BOM, trailing filler.
* `C04_crlf_partial` — the cleaned doc text of a CRLF doccomment; the CRLF half of C04 at the level of the page
  is `C04_crlf_page` (`C04Crlf.lean`), which builds on it.

The hypotheses `hwf`/`hk1` are those of `T_pipeline` and are asked of one of the two modules only.
-/
namespace Cminx

open C01

/-- any two texts (valid modules or not) whose significant token sequences agree are processed alike -/
theorem C04_same_significant (cfg : Cfg) (hdrs : List Str) (title modName : Str) (s₁ s₂ : Str) (ts₁ ts₂ : List Tok)
    (h₁ : lexAll (dropBom s₁) = .ok ts₁) (h₂ : lexAll (dropBom s₂) = .ok ts₂)
    (hs : significant ts₁ = significant ts₂) :
    pipeline cfg hdrs title modName s₁ = pipeline cfg hdrs title modName s₂ :=
  pipeline_congr cfg hdrs title modName (documentedOf_same_significant cfg h₁ h₂ hs)

/-- **any edit that keeps the file's token sequence**: valid modules with the same significant tokens — whatever
    their separators, comments, BOM — give the same result (page or error) -/
theorem C04_token_sequence (cfg : Cfg) (hdrs : List Str) (title modName : Str) (m₁ m₂ : Module)
    (hv₁ : m₁.valid = true) (hv₂ : m₂.valid = true) (hs : m₁.sigToks = m₂.sigToks) :
    pipeline cfg hdrs title modName m₁.render = pipeline cfg hdrs title modName m₂.render := by
  obtain ⟨ts₁, ts₂, a, b, c⟩ := T_lex_layout m₁ m₂ hv₁ hv₂ hs
  exact C04_same_significant cfg hdrs title modName _ _ ts₁ ts₂ a b c

/-- the two doccomments are both present or both absent and have the same cleaned text
    (`docTextOf d = cleanDoc d.tokenText`): the indentation of the block, the filler in front of it, … may differ -/
def DocEquiv (d d' : Option DocC) : Prop := d.isSome = d'.isSome ∧ docTextOf d = docTextOf d'

/-- the same for the module doccomment, which is read through `moduleNameDoc` (name and doc text) -/
def ModDocEquiv (d d' : Option DocC) : Prop :=
  d.map (fun x => moduleNameDoc x.tokenText) = d'.map (fun x => moduleNameDoc x.tokenText)

/-- `m₂` is a layout variant of `m₁`: same tree shape; corresponding commands have the same lower-cased name and
    the same parse-tree arguments (`Call.Sim` — separators, comments and letter case of the name are free);
    corresponding doccomments have the same cleaned text.  BOM and trailing filler are free. -/
def LayoutVariant (m₁ m₂ : Module) : Prop :=
  itemsRel Call.Sim DocEquiv m₁.items m₂.items ∧ ModDocEquiv m₁.modDoc m₂.modDoc

theorem DocEquiv.obs : DocObs DocEquiv := fun _ _ h => h

theorem DocEquiv.refl (d : Option DocC) : DocEquiv d d := ⟨rfl, rfl⟩

theorem DocSim.equiv {d d' : Option DocC} (h : DocSim d d') : DocEquiv d d' := ⟨h.isSome, h.docText⟩

theorem DocSim.modEquiv {d d' : Option DocC} (h : DocSim d d') : ModDocEquiv d d' := by
  simpa [ModDocEquiv, Option.map_map, Function.comp_def] using congrArg (Option.map moduleNameDoc) h

theorem LayoutVariant.refl (m : Module) : LayoutVariant m m :=
  ⟨itemsRel.refl Call.Sim.refl DocEquiv.refl _, rfl⟩

/-- layout variants have the same expected `documented` list -/
theorem C04_entries (cfg : Cfg) (m₁ m₂ : Module) (h : LayoutVariant m₁ m₂) : m₁.entries cfg = m₂.entries cfg := by
  rw [C02_entries, C02_entries, itemsSpec_rel DocEquiv.obs cfg .none _ _ h.1]
  congr 1
  have hm := h.2
  unfold ModDocEquiv at hm
  cases h₁ : m₁.modDoc <;> cases h₂ : m₂.modDoc <;> simp_all

/-- well-formedness and the K1 guard are layout invariant -/
theorem C04_layout_wf (m₁ m₂ : Module) (h : LayoutVariant m₁ m₂) :
    itemsWf false m₁.items = itemsWf false m₂.items ∧
      itemsHaveDocumentedClass m₁.items = itemsHaveDocumentedClass m₂.items :=
  ⟨itemsWf_rel false _ _ h.1, itemsHaveDocumentedClass_rel DocEquiv.obs _ _ h.1⟩

/-- **C04**: layout variants give the same page -/
theorem C04_layout (cfg : Cfg) (hdrs : List Str) (title modName : Str) (m₁ m₂ : Module)
    (hv₁ : m₁.valid = true) (hv₂ : m₂.valid = true) (hwf : itemsWf false m₁.items = true)
    (hk1 : cfg.inclCppClass = true ∨ itemsHaveDocumentedClass m₁.items = false)
    (h : LayoutVariant m₁ m₂) :
    pipeline cfg hdrs title modName m₁.render = pipeline cfg hdrs title modName m₂.render := by
  have hinv := C04_layout_wf m₁ m₂ h
  apply pipeline_congr
  rw [T_documented cfg m₁ hv₁ hwf hk1, T_documented cfg m₂ hv₂ (hinv.1 ▸ hwf) (hinv.2 ▸ hk1), C04_entries cfg m₁ m₂ h]

/-- …and that page is the page of the specification -/
theorem C04_layout_page (cfg : Cfg) (hc : Str) (hs : List Str) (title modName : Str) (m₁ m₂ : Module)
    (hv₁ : m₁.valid = true) (hv₂ : m₂.valid = true) (hwf : itemsWf false m₁.items = true)
    (hk1 : cfg.inclCppClass = true ∨ itemsHaveDocumentedClass m₁.items = false)
    (h : LayoutVariant m₁ m₂) :
    pipeline cfg (hc :: hs) title modName m₂.render =
      .ok (processDocs hc title modName (m₁.entries cfg)).render := by
  rw [← C04_layout cfg (hc :: hs) title modName m₁ m₂ hv₁ hv₂ hwf hk1 h]
  exact T_pipeline cfg hc hs title modName m₁ hv₁ hwf hk1

/-- Adding or removing spaces, tabs, blank lines, line comments and bracket comments anywhere between tokens —
    before a command, between a doccomment and its command, inside argument lists, before the module doccomment,
    at the end of the file: `SameUpToLayout` (`C02.lean`) relates item lists whose corresponding commands have the
    same name up to case and the same parse-tree arguments and whose doccomment tokens have the same text; every
    `Sep` of the tree, the BOM and the trailing filler are unconstrained. -/
theorem C04_separators (cfg : Cfg) (hdrs : List Str) (title modName : Str) (m₁ m₂ : Module)
    (hv₁ : m₁.valid = true) (hv₂ : m₂.valid = true) (hwf : itemsWf false m₁.items = true)
    (hk1 : cfg.inclCppClass = true ∨ itemsHaveDocumentedClass m₁.items = false)
    (hmod : DocSim m₁.modDoc m₂.modDoc) (h : SameUpToLayout m₁.items m₂.items) :
    pipeline cfg hdrs title modName m₁.render = pipeline cfg hdrs title modName m₂.render :=
  C04_layout cfg hdrs title modName m₁ m₂ hv₁ hv₂ hwf hk1
    ⟨itemsRel.mono (fun _ _ h => h) (fun _ _ h => h.equiv) _ _ h, hmod.modEquiv⟩

/-- in particular with the identical module doccomment -/
theorem C04_separators' (cfg : Cfg) (hdrs : List Str) (title modName : Str) (m₁ m₂ : Module)
    (hv₁ : m₁.valid = true) (hv₂ : m₂.valid = true) (hwf : itemsWf false m₁.items = true)
    (hk1 : cfg.inclCppClass = true ∨ itemsHaveDocumentedClass m₁.items = false)
    (hmod : m₁.modDoc = m₂.modDoc) (h : SameUpToLayout m₁.items m₂.items) :
    pipeline cfg hdrs title modName m₁.render = pipeline cfg hdrs title modName m₂.render :=
  C04_separators cfg hdrs title modName m₁ m₂ hv₁ hv₂ hwf hk1 (by rw [hmod]; rfl) h

/-- Changing the letter case of command names (`SameUpToCase`, `C02.lean`: every command of `m₂` is the
    corresponding command of `m₁` with its name respelled, `asciiLower` of the names agreeing; everything else
    identical) does not change the page. -/
theorem C04_case (cfg : Cfg) (hdrs : List Str) (title modName : Str) (m₁ m₂ : Module)
    (hv₁ : m₁.valid = true) (hv₂ : m₂.valid = true) (hwf : itemsWf false m₁.items = true)
    (hk1 : cfg.inclCppClass = true ∨ itemsHaveDocumentedClass m₁.items = false)
    (hmod : m₁.modDoc = m₂.modDoc) (h : SameUpToCase m₁.items m₂.items) :
    pipeline cfg hdrs title modName m₁.render = pipeline cfg hdrs title modName m₂.render :=
  C04_separators' cfg hdrs title modName m₁ m₂ hv₁ hv₂ hwf hk1 hmod h.layout

/-- a doccomment in the prescribed form: `#`-led body lines, LF line ends, nothing after `#[[[` on the opening
    line, indentation of blanks and tabs, no line break inside a line text -/
structure DocC.Canonical (d : DocC) : Prop where
  leader : d.leader = true
  lf : d.crlf = false
  plain : d.openSuffix = []
  ind : IndOk d.ind
  lines : ∀ t ∈ d.lines, NoNl t

instance DocC.Canonical.decidable (d : DocC) : Decidable d.Canonical :=
  decidable_of_iff (d.leader = true ∧ d.crlf = false ∧ d.openSuffix = [] ∧ IndOk d.ind ∧ ∀ t ∈ d.lines, NoNl t)
    ⟨fun ⟨a, b, c, e, f⟩ => ⟨a, b, c, e, f⟩, fun ⟨a, b, c, e, f⟩ => ⟨a, b, c, e, f⟩⟩

/-- the block moved to another indentation: the opening line, every body line and the closing line start with
    `ind'` instead of `d.ind` (`DocC.render`, `DocC.tokenText`, `DocC.bodyLine`) -/
def DocC.reindent (d : DocC) (ind' : Str) : DocC := { d with ind := ind' }

/-- re-indenting a canonical doccomment uniformly with spaces or tabs keeps its cleaned text
    (`C01_clean_reindent`) -/
theorem C04_reindent_equiv (d : DocC) (ind' : Str) (hc : d.Canonical) (hi' : IndOk ind') :
    DocEquiv (some d) (some (d.reindent ind')) :=
  ⟨rfl, (C01_clean_reindent d ind' hc.leader hc.lf hc.plain hc.ind hi' hc.lines).symm⟩

/-- `d'` is `d`, or `d` is canonical and `d'` is `d` at another blank/tab indentation -/
def Reindented : Option DocC → Option DocC → Prop
  | none, none => True
  | some d, some d' => d' = d ∨ (d.Canonical ∧ ∃ ind', IndOk ind' ∧ d' = d.reindent ind')
  | _, _ => False

theorem Reindented.equiv : ∀ {d d' : Option DocC}, Reindented d d' → DocEquiv d d'
  | none, none, _ => DocEquiv.refl _
  | some d, some d', h => by
    rcases h with rfl | ⟨hc, ind', hi', rfl⟩
    · exact DocEquiv.refl _
    · exact C04_reindent_equiv d ind' hc hi'
  | none, some _, h | some _, none, h => h.elim

theorem Reindented.refl : ∀ d : Option DocC, Reindented d d
  | none => trivial
  | some _ => Or.inl rfl

/-- any number of canonical doccomments, anywhere in the tree (on commands, blocks, declarations, dangling ones),
    re-indented — each to its own new indentation — everything else identical -/
theorem C04_reindent_tree (cfg : Cfg) (hdrs : List Str) (title modName : Str) (m₁ m₂ : Module)
    (hv₁ : m₁.valid = true) (hv₂ : m₂.valid = true) (hwf : itemsWf false m₁.items = true)
    (hk1 : cfg.inclCppClass = true ∨ itemsHaveDocumentedClass m₁.items = false)
    (hmod : m₁.modDoc = m₂.modDoc) (h : itemsRel Eq Reindented m₁.items m₂.items) :
    pipeline cfg hdrs title modName m₁.render = pipeline cfg hdrs title modName m₂.render :=
  C04_layout cfg hdrs title modName m₁ m₂ hv₁ hv₂ hwf hk1
    ⟨itemsRel.mono (fun c _ h => h ▸ Call.Sim.refl c) (fun _ _ h => h.equiv) _ _ h, by rw [hmod]; rfl⟩

/-- the single-item form: the doccomment `d` of one top-level command is moved from its indentation to `ind'` -/
theorem C04_reindent (cfg : Cfg) (hdrs : List Str) (title modName : Str) (m₁ m₂ : Module)
    (pre post : List Item) (d : DocC) (call : Call) (ind' : Str)
    (hc : d.Canonical) (hi' : IndOk ind')
    (h₁ : m₁.items = pre ++ [Item.cmd (some d) call] ++ post)
    (h₂ : m₂.items = pre ++ [Item.cmd (some (d.reindent ind')) call] ++ post)
    (hmod : m₁.modDoc = m₂.modDoc)
    (hv₁ : m₁.valid = true) (hv₂ : m₂.valid = true) (hwf : itemsWf false m₁.items = true)
    (hk1 : cfg.inclCppClass = true ∨ itemsHaveDocumentedClass m₁.items = false) :
    pipeline cfg hdrs title modName m₁.render = pipeline cfg hdrs title modName m₂.render := by
  apply C04_reindent_tree cfg hdrs title modName m₁ m₂ hv₁ hv₂ hwf hk1 hmod
  rw [h₁, h₂]
  apply itemsRel.context (fun _ => rfl) Reindented.refl
  simp only [Item.Rel]
  exact ⟨Or.inr ⟨hc, ind', hi', rfl⟩, trivial⟩

/-- the same for the doccomment of a block (function, macro, class, …) -/
theorem C04_reindent_block (cfg : Cfg) (hdrs : List Str) (title modName : Str) (m₁ m₂ : Module)
    (pre post : List Item) (d : DocC) (o : Call) (body : List Item) (c : Call) (ind' : Str)
    (hc : d.Canonical) (hi' : IndOk ind')
    (h₁ : m₁.items = pre ++ [Item.block (some d) o body c] ++ post)
    (h₂ : m₂.items = pre ++ [Item.block (some (d.reindent ind')) o body c] ++ post)
    (hmod : m₁.modDoc = m₂.modDoc)
    (hv₁ : m₁.valid = true) (hv₂ : m₂.valid = true) (hwf : itemsWf false m₁.items = true)
    (hk1 : cfg.inclCppClass = true ∨ itemsHaveDocumentedClass m₁.items = false) :
    pipeline cfg hdrs title modName m₁.render = pipeline cfg hdrs title modName m₂.render := by
  apply C04_reindent_tree cfg hdrs title modName m₁ m₂ hv₁ hv₂ hwf hk1 hmod
  rw [h₁, h₂]
  apply itemsRel.context (fun _ => rfl) Reindented.refl
  simp only [Item.Rel]
  exact ⟨Or.inr ⟨hc, ind', hi', rfl⟩, trivial, itemsRel.refl (fun _ => rfl) Reindented.refl body, trivial⟩

/-- the module doccomment `#[[[<blanks>@module<rest>` (LF line ends, `#`-led lines) may be re-indented as well:
    name and doc text do not depend on the indentation (`C01_module_doc`) -/
theorem C04_reindent_module_equiv (d : DocC) (ind' sp rest : Str) (hl : d.leader = true) (hcr : d.crlf = false)
    (hi : IndOk d.ind) (hi' : IndOk ind') (ho : d.openSuffix = sp ++ lit "@module" ++ rest) (hsp : IndOk sp)
    (hr : NoNl rest) (hn : ∀ t ∈ d.lines, NoNl t) :
    ModDocEquiv (some d) (some (d.reindent ind')) := by
  simp only [ModDocEquiv, Option.map_some]
  rw [C01_module_doc d sp rest hl hcr hi ho hsp hr hn,
    C01_module_doc (d.reindent ind') sp rest hl hcr hi' ho hsp hr hn]
  rfl

theorem C04_reindent_module (cfg : Cfg) (hdrs : List Str) (title modName : Str) (m₁ m₂ : Module)
    (d : DocC) (ind' sp rest : Str) (hl : d.leader = true) (hcr : d.crlf = false)
    (hi : IndOk d.ind) (hi' : IndOk ind') (ho : d.openSuffix = sp ++ lit "@module" ++ rest) (hsp : IndOk sp)
    (hr : NoNl rest) (hn : ∀ t ∈ d.lines, NoNl t)
    (h₁ : m₁.modDoc = some d) (h₂ : m₂.modDoc = some (d.reindent ind')) (hitems : m₁.items = m₂.items)
    (hv₁ : m₁.valid = true) (hv₂ : m₂.valid = true) (hwf : itemsWf false m₁.items = true)
    (hk1 : cfg.inclCppClass = true ∨ itemsHaveDocumentedClass m₁.items = false) :
    pipeline cfg hdrs title modName m₁.render = pipeline cfg hdrs title modName m₂.render := by
  apply C04_layout cfg hdrs title modName m₁ m₂ hv₁ hv₂ hwf hk1
  refine ⟨hitems ▸ itemsRel.refl Call.Sim.refl DocEquiv.refl _, ?_⟩
  rw [h₁, h₂]
  exact C04_reindent_module_equiv d ind' sp rest hl hcr hi hi' ho hsp hr hn

/-- **CRLF inside a doccomment block.**  Converting the line ends of a canonical doccomment block to CRLF
    changes its cleaned text in exactly this way: every line keeps its `'\r'`, and the opening line leaves one
    extra first line consisting of `'\r'` alone (with LF it leaves an empty line, which `clean_doc_lines` drops).
    So the two cleaned texts agree after removing `'\r'` characters and whitespace-only lines.

    Separators between tokens (`SepAtom.nl true`, CRLF line comments) change nothing at all
    (`C04_separators`/`C04_token_sequence`); what this difference does to the page is `C04_crlf_page`
    (`C04Crlf.lean`). -/
theorem C04_crlf_partial (d : DocC) (hc : d.Canonical) :
    docTextOf (some d) = joinNl (d.lines ++ [[]]) ∧
    docTextOf (some { d with crlf := true }) = joinNl (['\r'] :: d.lines.map (· ++ ['\r']) ++ [[]]) :=
  ⟨C01_clean_canonical d hc.leader hc.lf hc.plain hc.ind hc.lines,
   C01_clean_crlf { d with crlf := true } hc.leader rfl hc.plain hc.ind hc.lines⟩

/-- the same, line by line: the lines of the CRLF text are `"\r"`, then the LF lines each with `'\r'` appended
    (the final empty line excepted) -/
theorem C04_crlf_lines_partial (d : DocC) (hc : d.Canonical) :
    splitNl (docTextOf (some d)) = d.lines ++ [[]] ∧
    splitNl (docTextOf (some { d with crlf := true })) = ['\r'] :: d.lines.map (· ++ ['\r']) ++ [[]] := by
  obtain ⟨h1, h2⟩ := C04_crlf_partial d hc
  rw [h1, h2]
  constructor
  · exact splitNl_joinNl_concat_nil hc.lines
  · refine splitNl_joinNl_concat_nil (List.forall_mem_cons.2 ⟨by decide, fun l hl => ?_⟩)
    obtain ⟨t, ht, rfl⟩ := List.mem_map.1 hl
    simpa [NoNl] using hc.lines t ht

/-- the module doccomment with CRLF line ends (`C01_module_doc_crlf`): the doc lines keep their `'\r'`; the one on
    the opening line is stripped from the name -/
theorem C04_crlf_module_partial (d : DocC) (sp rest : Str) (hl : d.leader = true) (hcr : d.crlf = false)
    (hi : IndOk d.ind) (ho : d.openSuffix = sp ++ lit "@module" ++ rest) (hsp : IndOk sp)
    (hr : NoNl rest) (hn : ∀ t ∈ d.lines, NoNl t) :
    moduleNameDoc d.tokenText = (stripWs (replaceAll (lit "@module") [] rest), joinNl (d.lines ++ [[]])) ∧
    moduleNameDoc { d with crlf := true }.tokenText =
      (stripWs (replaceAll (lit "@module") [] (rest ++ ['\r'])), joinNl (d.lines.map (· ++ ['\r']) ++ [[]])) :=
  ⟨C01_module_doc d sp rest hl hcr hi ho hsp hr hn,
   C01_module_doc_crlf { d with crlf := true } sp rest hl rfl hi ho hsp hr hn⟩

/-! ## non-vacuity

`exA`:
```
#[[[
# Doc of f
# :param x: it
#]]
function(f x)
  option(O "help")
endfunction()
```
`exB`: the same module with a byte-order mark, a CRLF-terminated line comment and a blank line in front, the
doccomment block re-indented by a tab and a space, a bracket comment between the doccomment and its command,
command names in other letter cases, blanks before `(`, a line comment and a line break inside an argument list,
a bracket comment between arguments, CRLF line breaks before `)`, no line end at the end of the file. -/

namespace C04

def docA : DocC :=
  { pre := [], ind := [], openSuffix := [], lines := [lit "Doc of f", lit ":param x: it"], leader := true, crlf := false }

def docB : DocC :=
  { docA with pre := [.lineComment (lit " leading comment") (some true), .nl false], ind := lit "\t " }

def exA : Module :=
  { bom := false, modDoc := none, tail := [.nl false],
    items := [
      .block (some docA)
        { pre := [.nl false], name := lit "function", sp := 0, close := [],
          args := [.tok [] (.bare (lit "f")), .tok [.spaces 1] (.bare (lit "x"))] }
        [ .cmd none
            { pre := [.nl false, .spaces 2], name := lit "option", sp := 0, close := [],
              args := [.tok [] (.bare (lit "O")), .tok [.spaces 1] (.quoted (lit "help"))] } ]
        { pre := [.nl false], name := lit "endfunction", sp := 0, args := [], close := [] } ] }

def exB : Module :=
  { bom := true, modDoc := none, tail := [],
    items := [
      .block (some docB)
        { pre := [.nl true, .bracketComment 1 (lit " between doc and command "), .nl false, .tabs 1],
          name := lit "FUNCTION", sp := 2, close := [.spaces 1],
          args := [.tok [.spaces 1] (.bare (lit "f")),
                   .tok [.spaces 2, .lineComment (lit " c") (some false), .spaces 3] (.bare (lit "x"))] }
        [ .cmd none
            { pre := [.nl false, .nl false], name := lit "Option", sp := 0, close := [.nl true],
              args := [.tok [] (.bare (lit "O")),
                       .tok [.spaces 1, .bracketComment 0 (lit " b "), .spaces 1] (.quoted (lit "help"))] } ]
        { pre := [.nl true, .lineComment (lit " done") (some true)], name := lit "EndFunction", sp := 1, args := [],
          close := [.spaces 1] } ] }


theorem exA_valid : exA.valid = true := by
  unfold exA docA
  repeat rw [lit_ofList]
  decide +kernel

theorem exB_valid : exB.valid = true := by
  unfold exB docB docA
  repeat rw [lit_ofList]
  decide +kernel

theorem exA_wf : itemsWf false exA.items = true := by decide +kernel

theorem docA_canonical : docA.Canonical := by decide +kernel

theorem exAB_variant : LayoutVariant exA exB := by
  refine ⟨?_, rfl⟩
  simp only [exA, exB, itemsRel, Item.Rel, and_true]
  repeat rw [lit_ofList]
  refine ⟨?_, ⟨by decide, rfl⟩, ⟨DocEquiv.refl _, by decide, rfl⟩, by decide, rfl⟩
  exact C04_reindent_equiv docA _ docA_canonical (by decide)

example (hdrs : List Str) (title modName : Str) :
    pipeline {} hdrs title modName exA.render = pipeline {} hdrs title modName exB.render :=
  C04_layout {} hdrs title modName exA exB exA_valid exB_valid exA_wf (Or.inl rfl) exAB_variant

example : exA.render ≠ exB.render := by decide +kernel

example : exA.sigToks ≠ exB.sigToks := by decide +kernel


/-- the block doccomment of `exA` moved to an indentation of two blanks: `C04_reindent_block` -/
def exA2 : Module :=
  { exA with items := [
      .block (some (docA.reindent (lit "  ")))
        { pre := [.nl false], name := lit "function", sp := 0, close := [],
          args := [.tok [] (.bare (lit "f")), .tok [.spaces 1] (.bare (lit "x"))] }
        [ .cmd none
            { pre := [.nl false, .spaces 2], name := lit "option", sp := 0, close := [],
              args := [.tok [] (.bare (lit "O")), .tok [.spaces 1] (.quoted (lit "help"))] } ]
        { pre := [.nl false], name := lit "endfunction", sp := 0, args := [], close := [] } ] }

theorem exA2_valid : exA2.valid = true := by
  unfold exA2 docA
  repeat rw [lit_ofList]
  decide +kernel

example (hdrs : List Str) (title modName : Str) :
    pipeline {} hdrs title modName exA.render = pipeline {} hdrs title modName exA2.render :=
  C04_reindent_block {} hdrs title modName exA exA2 [] [] docA _ _ _ (lit "  ") docA_canonical
    (by decide +kernel) rfl rfl rfl exA_valid exA2_valid exA_wf (Or.inl rfl)

/-- same tokens, other filler: BOM, a final comment without line end -/
def exA3 : Module := { exA with bom := true, tail := [.nl true, .tabs 1, .lineComment (lit " the end") none] }

theorem exA3_valid : exA3.valid = true := by
  unfold exA3 exA docA
  repeat rw [lit_ofList]
  decide +kernel

example (cfg : Cfg) (hdrs : List Str) (title modName : Str) :
    pipeline cfg hdrs title modName exA.render = pipeline cfg hdrs title modName exA3.render :=
  C04_token_sequence cfg hdrs title modName exA exA3 exA_valid exA3_valid rfl

/-- `exPlain` / `exRespelt` of `C02.lean` as modules: command names respelled, nothing else changed -/
def exPlainM : Module := { bom := false, modDoc := none, items := exPlain, tail := [.nl false] }
def exRespeltM : Module := { bom := false, modDoc := none, items := exRespelt, tail := [.nl false] }

theorem exPlainM_valid : exPlainM.valid = true := by decide +kernel

theorem exRespeltM_valid : exRespeltM.valid = true := by decide +kernel

example (hdrs : List Str) (title modName : Str) :
    pipeline {} hdrs title modName exPlainM.render = pipeline {} hdrs title modName exRespeltM.render := by
  apply C04_case {} hdrs title modName exPlainM exRespeltM exPlainM_valid exRespeltM_valid (by decide +kernel) (Or.inl rfl) rfl
  simp only [SameUpToCase, exPlainM, exRespeltM, exPlain, exRespelt, itemsRel, Item.Rel, Call.CaseEq, Call.recase, mkCall,
    List.map, and_true]
  repeat rw [String.toList_ofList]
  decide

example : String.ofList (docTextOf (some docA)) = "Doc of f\n:param x: it\n" ∧
    String.ofList (docTextOf (some { docA with crlf := true })) = "\r\nDoc of f\r\n:param x: it\r\n" := by
  obtain ⟨h1, h2⟩ := C04_crlf_partial docA docA_canonical
  rw [h1, h2, docA, lit_ofList, lit_ofList]
  decide

end C04

end Cminx
