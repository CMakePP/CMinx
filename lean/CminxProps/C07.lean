import CminxLemmas.RenderLemmas
/-!
# C07 — Generated reST is structurally well formed (structural half)

*Statement.* "When doccomment bodies are valid reST and argument values contain no line breaks, the generated
document parses … and consists of one title, then one module directive, then the entries as top-level siblings.
Every entry's notes, warnings, fields, options, documentation text and class members are nested inside that
entry's directive and nowhere else."

The docutils-acceptance half is validated by running docutils on the real output.  The theorems here cover the
half that is logic: containment, order, indentation.

The central device is a *tagged line view* of an element (`Elem.tlines`): the lines the element contributes
when rendered at depth 0, each tagged with whether it carries the indentation prefix of the writer it is rendered
in.  Rendering at depth `d` is: prepend `indent d` to exactly the tagged lines (`C07_render_tlines`).  Untagged
lines are always the empty separator lines of the templates (`C07_tlines_untagged`).  All other statements are
corollaries.

Paragraphs (doc text) may be multi-line; every other string a template puts on one line must be free of `'\n'`.
The condition exists on two levels.  `SingleLine` says it of an element and is the hypothesis of the theorems about
`Elem.render`.  `Entry.OneLine` (with `Method.OneLine`, `Attr.OneLine`) says it of the fields of an entry: it is "argument
values contain no line breaks" in the terms of the pipeline's data, and the hypothesis of every page-level theorem
(`C07_page_lines`; C02Text, C01Page, C04Crlf).  `C07_entry_single_line` leads from the second to the first: the element
of a `OneLine` entry is `SingleLine`, the strings the templates add being literals without `'\n'`.
-/
namespace Cminx

mutual
/-- every string the templates put on a single line is free of line breaks; paragraph text is unconstrained -/
def SingleLine : Elem → Prop
  | .para _ => True
  | .field n t => '\n' ∉ n ∧ '\n' ∉ t
  | .list _ items => ∀ it ∈ items, '\n' ∉ it
  | .directive name args opts body =>
      '\n' ∉ name ∧ (∀ a ∈ args, '\n' ∉ a) ∧ (∀ nv ∈ opts, '\n' ∉ nv.1 ∧ '\n' ∉ nv.2) ∧ SingleLineList body
def SingleLineList : List Elem → Prop
  | [] => True
  | e :: es => SingleLine e ∧ SingleLineList es
end

/-- every line of `s` is blank or indented by at least `3·d` columns -/
def Blocky (d : Nat) (s : Str) : Prop := ∀ l ∈ splitNl s, l = [] ∨ (indent d).isPrefixOf l = true

/-- move tagged lines one level inwards: three more columns for exactly the tagged lines -/
def shiftT (ls : List (Bool × Str)) : List (Bool × Str) :=
  ls.map fun bl => (bl.1, if bl.1 then indent 1 ++ bl.2 else bl.2)

mutual
/-- The lines of an element as rendered by a writer at depth 0.  Tag `true`: the line carries the writer's
    indentation prefix (it is produced through `get_indents`); tag `false`: a bare separator line. -/
def Elem.tlines : Elem → List (Bool × Str)
  | .para t => (splitNl t).map (true, ·)
  | .field n t => [(false, []), (true, ':' :: (n ++ ':' :: ' ' :: t))]
  | .list en items => (false, []) :: items.mapIdx (fun i it => (true, itemMark en i ++ it)) ++ [(false, [])]
  | .directive name args opts body =>
      (false, []) :: (true, lit ".. " ++ name ++ lit ":: " ++ joinWith [','] args) ::
      opts.map (fun nv => (true, indent 1 ++ ':' :: (nv.1 ++ ':' :: ' ' :: nv.2))) ++
      (if body.isEmpty then [] else [(false, [])]) ++ shiftT (tlinesList body)
/-- the lines of `for element in document[1:]: s += f"{element}\n"`; the last piece is what follows the final `'\n'` -/
def tlinesList : List Elem → List (Bool × Str)
  | [] => [(false, [])]
  | e :: es => e.tlines ++ tlinesList es
end

/-- a tagged line as it appears at depth `d` -/
def place (d : Nat) (bl : Bool × Str) : Str := if bl.1 then indent d ++ bl.2 else bl.2

/-- what a directive parser does to one line of an indented block: remove three leading spaces if present -/
def dedent1 (l : Str) : Str := if (indent 1).isPrefixOf l then l.drop 3 else l

/-- the directive name each entry kind is rendered with -/
def Entry.dirName : Entry → Str
  | .module .. => lit "module"
  | .func .. | .generic .. | .ctest .. | .test .. => lit "function"
  | .var .. | .opt .. => lit "data"
  | .cls .. => lit "py:class"

/-- the strings of a method that end up on a single line: its name, its parameters, and the types that are paired
    with a parameter -/
def Method.OneLine (m : Method) : Prop :=
  '\n' ∉ m.name ∧ (∀ p ∈ m.params, '\n' ∉ p) ∧ (∀ ty ∈ m.paramTypes.take m.params.length, '\n' ∉ ty)

def Attr.OneLine (a : Attr) : Prop := '\n' ∉ a.name ∧ ∀ v, a.dflt = some v → '\n' ∉ v

/-- "argument values contain no line breaks", per entry kind.  Doc text is unconstrained everywhere (it is a
    paragraph), and so are a class's super-class names (the `Bases:` line is a paragraph too). -/
def Entry.OneLine : Entry → Prop
  | .module name _ => '\n' ∉ name
  | .func _ name _ params _ => '\n' ∉ name ∧ ∀ p ∈ params, '\n' ∉ p
  | .var name _ _ value => '\n' ∉ name ∧ ∀ v, value = some v → '\n' ∉ v
  | .opt name _ help dflt => '\n' ∉ name ∧ '\n' ∉ help ∧ ∀ v, dflt = some v → '\n' ∉ v
  | .generic name _ args => '\n' ∉ name ∧ ∀ a ∈ args, '\n' ∉ a
  | .ctest name _ params => '\n' ∉ name ∧ ∀ p ∈ params, '\n' ∉ p
  | .test _ name _ _ _ _ => '\n' ∉ name
  | .cls name _ _ inner ctors members attrs =>
      '\n' ∉ name ∧ (∀ i ∈ inner, '\n' ∉ i) ∧ (∀ m ∈ ctors, m.OneLine) ∧ (∀ m ∈ members, m.OneLine) ∧
      (∀ a ∈ attrs, a.OneLine)

instance (m : Method) : Decidable m.OneLine := inferInstanceAs (Decidable (_ ∧ _ ∧ _))
instance (a : Attr) : Decidable a.OneLine := inferInstanceAs (Decidable (_ ∧ _))
instance : (e : Entry) → Decidable e.OneLine
  | .module n _ | .test _ n _ _ _ _ => inferInstanceAs (Decidable ('\n' ∉ n))
  | .func .. | .var .. | .generic .. | .ctest .. => inferInstanceAs (Decidable (_ ∧ _))
  | .opt .. => inferInstanceAs (Decidable (_ ∧ _ ∧ _))
  | .cls .. => inferInstanceAs (Decidable (_ ∧ _ ∧ _ ∧ _ ∧ _))

/-- the entries `process_docs` renders: unnamed module entries get the path-derived name, and a path-named module
    entry is put in front iff there is no module entry -/
def renderedDocs (modName : Str) (docs : List Entry) : List Entry :=
  (if docs.any isModule then docs else .module modName [] :: docs).map (nameModule modName)

theorem C07_singleLineList_iff (es : List Elem) : SingleLineList es ↔ ∀ e ∈ es, SingleLine e := by
  induction es with
  | nil => simp [SingleLineList]
  | cons e es ih => simp [SingleLineList, ih]

theorem C07_singleLineList_append (es₁ es₂ : List Elem) :
    SingleLineList (es₁ ++ es₂) ↔ SingleLineList es₁ ∧ SingleLineList es₂ := by
  simp only [C07_singleLineList_iff, List.forall_mem_append]

theorem C07_place_shift (d : Nat) (ls : List (Bool × Str)) : (shiftT ls).map (place d) = ls.map (place (d + 1)) := by
  simp only [shiftT, List.map_map]
  apply List.map_congr_left
  rintro ⟨b, l⟩ _
  cases b <;> simp [place, indent_append_one]

theorem C07_place_zero (bl : Bool × Str) : place 0 bl = bl.2 := by
  simp [place, indent_zero]

theorem map_place_zero (ls : List (Bool × Str)) : ls.map (place 0) = ls.map (·.2) :=
  List.map_congr_left fun bl _ => C07_place_zero bl

theorem map_snd_shiftT (ls : List (Bool × Str)) : (shiftT ls).map (·.2) = ls.map (place 1) := by
  rw [← map_place_zero, C07_place_shift]

theorem C01_place_para (d : Nat) (t : Str) : (Elem.para t).tlines.map (place d) = (splitNl t).map (indent d ++ ·) :=
  List.map_map

mutual
theorem C07_tlines_untagged : (e : Elem) → ∀ bl ∈ e.tlines, bl.1 = false → bl.2 = []
  -- line by line along the shape of `tlines`: a tagged line has nothing to show (`nofun`), an untagged one is `[]` (`rfl`)
  | .para t => List.forall_mem_map.2 nofun
  | .field n t => List.forall_mem_cons.2 ⟨fun _ => rfl, List.forall_mem_singleton.2 nofun⟩
  | .list en items => by
    refine List.forall_mem_cons.2 ⟨fun _ => rfl, List.forall_mem_append.2 ⟨?_, List.forall_mem_singleton.2 fun _ => rfl⟩⟩
    rintro _ hbl
    obtain ⟨i, _, rfl⟩ := List.mem_mapIdx.1 hbl
    nofun
  | .directive name args opts body => by
    -- what is left is the separator line and the body's lines
    simp only [Elem.tlines, shiftT, List.cons_append, List.forall_mem_cons, List.forall_mem_append, List.forall_mem_map,
      Bool.true_eq_false, false_imp_iff, implies_true, true_and]
    refine ⟨?_, fun bl hbl hb => ?_⟩
    · split <;> simp
    · simpa [hb] using C07_tlinesList_untagged body bl hbl hb
theorem C07_tlinesList_untagged : (es : List Elem) → ∀ bl ∈ tlinesList es, bl.1 = false → bl.2 = []
  | [] => by simp [tlinesList]
  | e :: es => by
    simp only [tlinesList, List.forall_mem_append]
    exact ⟨C07_tlines_untagged e, C07_tlinesList_untagged es⟩
end

theorem splitNl_render_directive (d : Nat) {name : Str} {args : List Str} {opts : List (Str × Str)} (body : List Elem)
    (hn : '\n' ∉ name) (ha : ∀ a ∈ args, '\n' ∉ a) (ho : ∀ nv ∈ opts, '\n' ∉ nv.1 ∧ '\n' ∉ nv.2) :
    splitNl ((Elem.directive name args opts body).render d) =
      [] :: (indent d ++ lit ".. " ++ name ++ lit ":: " ++ joinWith [','] args) ::
        (opts.map (fun nv => indent (d + 1) ++ ':' :: (nv.1 ++ ':' :: ' ' :: nv.2)) ++
         ((if body.isEmpty then [] else [[]]) ++ splitNl (renderElems (d + 1) body))) := by
  simp only [Elem.render, List.append_assoc, List.cons_append]
  rw [splitNl_renderDirHeading_nl hn ha, renderOpts_split _ _ ho]
  cases body <;> simp

theorem blocky_place {ls : List (Bool × Str)} (hu : ∀ bl ∈ ls, bl.1 = false → bl.2 = []) (d : Nat) :
    ∀ l ∈ ls.map (place d), l = [] ∨ (indent d).isPrefixOf l = true := by
  intro l hl
  obtain ⟨⟨b, x⟩, hx, rfl⟩ := List.mem_map.1 hl
  cases b with
  | false => exact .inl (hu _ hx rfl)
  | true => exact .inr (by simp [place])

mutual
theorem C07_render_tlines : (e : Elem) → (d : Nat) → SingleLine e → splitNl (e.render d) = e.tlines.map (place d)
  | .para t, d, _ => by
    rw [Elem.render, renderPara_lines, C01_place_para]
  | .field n t, d, h => by
    simp only [SingleLine] at h
    have : '\n' ∉ indent d ++ ':' :: (n ++ ':' :: ' ' :: t) := by simp [indent_noNl d, h]
    rw [Elem.render, renderField, splitNl_cons_nl, splitNl_of_noNl this]
    simp [Elem.tlines, place]
  | .list en items, d, h => by
    simp only [SingleLine] at h
    simp only [Elem.render, renderList_lines d en items h, Elem.tlines]
    simp [place, map_mapIdx]
  | .directive name args opts body, d, h => by
    simp only [SingleLine] at h
    obtain ⟨hn, ha, ho, hb⟩ := h
    rw [splitNl_render_directive d body hn ha ho, C07_renderElems_tlines body (d + 1) hb]
    cases body <;> simp [Elem.tlines, place, C07_place_shift, indent_append_one]
theorem C07_renderElems_tlines : (es : List Elem) → (d : Nat) → SingleLineList es →
    splitNl (renderElems d es) = (tlinesList es).map (place d)
  | [], d, _ => by simp [renderElems, tlinesList, place]
  | e :: es, d, h => by
    simp only [SingleLineList] at h
    simp only [renderElems, splitNl_append_nl, C07_render_tlines e d h.1, C07_renderElems_tlines es d h.2,
      tlinesList, List.map_append]
end

theorem C01_tlines_mem {x : Elem} {es : List Elem} (h : x ∈ es) : x.tlines <:+: tlinesList es := by
  induction es with
  | nil => simp at h
  | cons e es ih =>
    simp only [tlinesList]
    rcases List.mem_cons.1 h with rfl | h
    · exact (List.prefix_append _ _).isInfix
    · exact (ih h).trans (List.suffix_append _ _).isInfix

theorem C01_tlines_child {x y : Elem} (h : x ∈ y.children) : shiftT x.tlines <:+: y.tlines := by
  cases y with
  | directive name args opts body =>
    simp only [Elem.tlines]
    exact ((C01_tlines_mem h).map _).trans (List.suffix_append _ _).isInfix
  | _ => simp [Elem.children] at h

theorem C07_elem_blocky (e : Elem) (d : Nat) (h : SingleLine e) : Blocky d (e.render d) :=
  fun l hl => blocky_place (C07_tlines_untagged e) d l (C07_render_tlines e d h ▸ hl)

theorem C07_elems_blocky (es : List Elem) (d : Nat) (h : ∀ e ∈ es, SingleLine e) : Blocky d (renderElems d es) :=
  fun l hl => blocky_place (C07_tlinesList_untagged es) d l
    (C07_renderElems_tlines es d ((C07_singleLineList_iff es).2 h) ▸ hl)

/-- the body of a directive rendered at depth `d` lies entirely in the region indented by `indent (d + 1)` -/
theorem C07_body_blocky (es : List Elem) (d : Nat) (h : ∀ e ∈ es, SingleLine e) :
    Blocky (d + 1) (renderElems (d + 1) es) := C07_elems_blocky es (d + 1) h

/-- A directive at depth `d` is: a blank line; the heading line at column `3·d`; the option lines at column
    `3·(d+1)` immediately below; then, iff the body is non-empty, a blank line; then the body's lines, every one of
    which is blank or indented by `indent (d + 1)`.  Notes, warnings, fields, doc text and member directives are all
    in `body`, so they are rendered inside the indented region of their entry and nowhere else. -/
theorem C07_entry_block (d : Nat) (name : Str) (args : List Str) (opts : List (Str × Str)) (body : List Elem)
    (h : SingleLine (.directive name args opts body)) :
    splitNl ((Elem.directive name args opts body).render d) =
      [] :: (indent d ++ lit ".. " ++ name ++ lit ":: " ++ joinWith [','] args) ::
        (opts.map (fun nv => indent (d + 1) ++ ':' :: (nv.1 ++ ':' :: ' ' :: nv.2)) ++
         ((if body.isEmpty then [] else [[]]) ++ splitNl (renderElems (d + 1) body))) ∧
    Blocky (d + 1) (renderElems (d + 1) body) ∧
    (∀ l ∈ (if body.isEmpty then [] else [[]]) ++ splitNl (renderElems (d + 1) body),
      l = [] ∨ (indent (d + 1)).isPrefixOf l = true) := by
  obtain ⟨hn, ha, ho, hb⟩ := h
  have hbl := C07_elems_blocky body (d + 1) ((C07_singleLineList_iff body).1 hb)
  refine ⟨splitNl_render_directive d body hn ha ho, hbl, List.forall_mem_append.2 ⟨?_, hbl⟩⟩
  split
  · nofun
  · exact List.forall_mem_singleton.2 (.inl rfl)

theorem dedent1_indent (l : Str) : dedent1 (indent 1 ++ l) = l := by
  simp [dedent1, indent]

/-- Removing three columns from every line of a body rendered at depth `d + 1` gives exactly the lines of the
    same body rendered at depth `d` — for `d = 0`, what a directive parser hands to the nested parse is the
    rendering of the children as a top-level document body. -/
theorem C07_dedent_body (d : Nat) (body : List Elem) (h : ∀ e ∈ body, SingleLine e) :
    (splitNl (renderElems (d + 1) body)).map dedent1 = splitNl (renderElems d body) := by
  have hb := (C07_singleLineList_iff body).2 h
  rw [C07_renderElems_tlines body (d + 1) hb, C07_renderElems_tlines body d hb, List.map_map]
  apply List.map_congr_left
  rintro ⟨b, l⟩ hx
  cases b with
  | false =>
    obtain rfl : l = [] := C07_tlinesList_untagged body _ hx rfl
    rfl
  | true =>
    simp only [Function.comp, place, if_true]
    rw [Nat.add_comm, indent_add, List.append_assoc, dedent1_indent]

/-- Conversely the deeper rendering is the shallower one with `indent 1` put in front of exactly the tagged lines
    (paragraph lines are prefixed even when empty, template blank lines never are). -/
theorem C07_indent_body (d : Nat) (body : List Elem) (h : ∀ e ∈ body, SingleLine e) :
    splitNl (renderElems (d + 1) body) = (shiftT (tlinesList body)).map (place d) ∧
    splitNl (renderElems d body) = (tlinesList body).map (place d) := by
  have hb := (C07_singleLineList_iff body).2 h
  exact ⟨by rw [C07_place_shift, C07_renderElems_tlines body (d + 1) hb], C07_renderElems_tlines body d hb⟩

theorem processDocs_body (hc title modName : Str) (docs : List Entry) :
    (processDocs hc title modName docs).body = (renderedDocs modName docs).map Entry.toElem := rfl

theorem C07_doc_order (hc title modName : Str) (docs : List Entry) :
    (processDocs hc title modName docs).render =
      renderHeading hc (titleOf title docs) ++ '\n' :: renderElems 0 ((renderedDocs modName docs).map Entry.toElem) := by
  simp [processDocs, Doc.render, renderedDocs]

/-- the inserted module entry is unchanged by the naming pass -/
theorem C07_renderedDocs (modName : Str) (docs : List Entry) :
    renderedDocs modName docs =
      if docs.any isModule then docs.map (nameModule modName)
      else .module modName [] :: docs.map (nameModule modName) := by
  unfold renderedDocs
  split
  · rfl
  · simp only [List.map_cons, nameModule]; split <;> rfl

/-- every entry is rendered as one directive with exactly one argument and no options, named by its kind -/
theorem C07_entry_is_directive (e : Entry) :
    ∃ arg body, e.toElem = .directive e.dirName [arg] [] body := by
  cases e <;> exact ⟨_, _, rfl⟩

/-! Every entry's element is `SingleLine`.  `simp only` with the equations of `SingleLine` and `SingleLineList` (over `++`,
`if`, `section?`, `map`) takes an element apart into the strings it puts on one line: paragraphs and absent optional parts
drop out, and what is left is one fact for each such string, in the order of the template (directive name and
argument first, then name and value of each field). -/

theorem C07_section_single_line (title : Str) (xs : List Elem) :
    SingleLineList (section? title xs) ↔ SingleLineList xs := by
  unfold section?
  split
  · simp_all [SingleLineList]
  · simp [SingleLineList, SingleLine]

theorem singleLineList_map {α : Type} (f : α → Elem) (xs : List α) :
    SingleLineList (xs.map f) ↔ ∀ x ∈ xs, SingleLine (f x) := by
  rw [C07_singleLineList_iff, List.forall_mem_map]

theorem getD_lit_noNl {o : Option Str} {l : List Char} (h : ∀ v, o = some v → '\n' ∉ v) (hl : '\n' ∉ l) :
    '\n' ∉ o.getD (lit (String.ofList l)) := by
  cases o with
  | none => exact not_mem_lit_of hl
  | some v => exact h v rfl

theorem C07_methodFields_single_line (doc : Str) (tys ps : List Str) (hp : ∀ p ∈ ps, '\n' ∉ p)
    (ht : ∀ ty ∈ tys.take ps.length, '\n' ∉ ty) : SingleLineList (methodFields doc tys ps) := by
  fun_induction methodFields doc tys ps with
  | case1 ty tys p ps ih =>
    obtain ⟨hp', hps⟩ := List.forall_mem_cons.1 hp
    obtain ⟨ht', hts⟩ : '\n' ∉ ty ∧ ∀ t ∈ tys.take ps.length, '\n' ∉ t := by simpa using ht
    have l1 : '\n' ∉ lit "param " ++ p := fun h => (List.mem_append.1 h).elim (not_mem_lit_of (by decide)) hp'
    have l2 : '\n' ∉ lit "type " ++ p := fun h => (List.mem_append.1 h).elim (not_mem_lit_of (by decide)) hp'
    simp only [SingleLine, SingleLineList, C07_singleLineList_append, apply_ite SingleLineList, and_true, and_assoc,
      if_true_left]
    exact ⟨fun _ => ⟨l1, List.not_mem_nil⟩, fun _ => ⟨l2, ht'⟩, ih hps hts⟩
  | case2 => trivial

theorem C07_method_single_line (m : Method) (h : m.OneLine) : SingleLine m.toElem := by
  obtain ⟨hn, hp, ht⟩ := h
  have hj := not_mem_joinWith (sep := [',', ' ']) (by decide) hp
  have hv : '\n' ∉ (if m.paramTypes.contains (lit "args") then lit "[, ...]" else []) :=
    ite_noNl (not_mem_lit_of (by decide)) List.not_mem_nil
  simp only [Method.toElem, SingleLine, SingleLineList, C07_singleLineList_append, apply_ite SingleLineList,
    List.forall_mem_singleton, List.not_mem_nil, false_imp_iff, implies_true, and_true, true_and, if_true_right]
  exact ⟨not_mem_lit_of (by decide), paren_noNl hn fun h => (List.mem_append.1 h).elim hj hv,
    fun _ => ⟨not_mem_lit_of (by decide), methodMacroNote_noNl⟩,
    C07_methodFields_single_line m.doc m.paramTypes m.params hp ht⟩

theorem C07_attr_single_line (a : Attr) (h : a.OneLine) : SingleLine a.toElem := by
  refine ⟨not_mem_lit_of (by decide), List.forall_mem_singleton.2 h.1, ?_, trivial, trivial⟩
  cases hd : a.dflt with
  | none => nofun
  | some v => exact List.forall_mem_singleton.2 ⟨not_mem_lit_of (by decide), h.2 v hd⟩

/-- if the entry's single-line strings are free of line breaks, so is every single-line string of its element
    (doc text may be multi-line: it is a paragraph) -/
theorem C07_entry_single_line (e : Entry) (h : e.OneLine) : SingleLine e.toElem := by
  cases e <;> simp only [Entry.toElem, SingleLine, SingleLineList, C07_singleLineList_append, apply_ite SingleLineList,
    C07_section_single_line, singleLineList_map, List.forall_mem_singleton, List.forall_mem_map, List.not_mem_nil,
    false_imp_iff, implies_true, and_true, true_and, and_assoc, ite_self, if_true_right, if_true_left]
  case module name doc => exact ⟨not_mem_lit_of (by decide), h⟩
  case func isMacro name doc params kwargs =>
    have hk : ∀ p ∈ (if kwargs then [lit "**kwargs"] else []), '\n' ∉ p := by
      split
      · exact List.forall_mem_singleton.2 (not_mem_lit_of (by decide))
      · nofun
    exact ⟨not_mem_lit_of (by decide), signature_noNl h.1 (List.forall_mem_append.2 ⟨h.2, hk⟩),
      fun _ => ⟨not_mem_lit_of (by decide), macroNote_noNl⟩⟩
  case var name doc ty value =>
    refine ⟨not_mem_lit_of (by decide), h.1,
      not_mem_lit_of (by decide), getD_lit_noNl h.2 (by decide),
      not_mem_lit_of (by decide), ?_⟩
    cases ty <;> exact not_mem_lit_of (by decide)
  case opt name doc help dflt =>
    exact ⟨not_mem_lit_of (by decide), h.1, not_mem_lit_of (by decide),
      not_mem_lit_of (by decide), h.2.1,
      not_mem_lit_of (by decide), getD_lit_noNl h.2.2 (by decide),
      not_mem_lit_of (by decide), not_mem_lit_of (by decide)⟩
  case generic name doc args =>
    exact ⟨not_mem_lit_of (by decide), signature_noNl h.1 h.2, not_mem_lit_of (by decide), genericWarning_noNl⟩
  case ctest name doc params =>
    exact ⟨not_mem_lit_of (by decide), signature_noNl h.1 h.2, not_mem_lit_of (by decide), ctestWarning_noNl⟩
  case test isSection name doc expectFail params isMacro =>
    exact ⟨not_mem_lit_of (by decide),
      signature_noNl h (List.forall_mem_singleton.2 (ite_noNl (not_mem_lit_of (by decide)) List.not_mem_nil)),
      not_mem_lit_of (by decide), ite_noNl sectionWarning_noNl testWarning_noNl⟩
  case cls name doc supers inner ctors members attrs =>
    obtain ⟨hn, hi, hc, hm, ha⟩ := h
    exact ⟨not_mem_lit_of (by decide), hn, fun m hmem => C07_method_single_line m (hc m hmem),
      fun m hmem => C07_method_single_line m (hm m hmem), fun a hmem => C07_attr_single_line a (ha a hmem),
      fun _ i hmem => interpreted_noNl (not_mem_lit_of (by decide)) (hi i hmem)⟩

theorem nameModule_of_not_isModule (m : Str) {e : Entry} (h : isModule e = false) : nameModule m e = e := by
  cases e with
  | module n d => cases h
  | _ => rfl

theorem nameModule_module (modName n t : Str) :
    nameModule modName (.module n t) = .module (if n.isEmpty then modName else n) t := by
  rw [nameModule]
  split <;> rfl

theorem C07_nameModule_one_line (modName : Str) (hm : '\n' ∉ modName) (e : Entry) (h : e.OneLine) :
    (nameModule modName e).OneLine := by
  cases e with
  | module n d =>
    simp only [nameModule]
    split
    · exact hm
    · exact h
  | _ => exact h

theorem renderedDocs_oneLine (modName : Str) (hm : '\n' ∉ modName) (docs : List Entry)
    (h : ∀ e ∈ docs, e.OneLine) : ∀ e ∈ renderedDocs modName docs, e.OneLine := by
  refine List.forall_mem_map.2 fun e he => C07_nameModule_one_line modName hm e ?_
  split at he
  · exact h e he
  · rcases List.mem_cons.1 he with rfl | he
    · exact hm
    · exact h e he

theorem C07_renderedDocs_single_line (modName : Str) (hm : '\n' ∉ modName) (docs : List Entry)
    (h : ∀ e ∈ docs, e.OneLine) : ∀ x ∈ (renderedDocs modName docs).map Entry.toElem, SingleLine x :=
  List.forall_mem_map.2 fun e he => C07_entry_single_line e (renderedDocs_oneLine modName hm docs h e he)

/-- The whole page in the line view: the title frame, then — at column 0 — the blocks of the entries in order.
    Every line of the body is blank or belongs to exactly one entry's block (`tlinesList` is the concatenation of
    the entries' `tlines`), and within a block everything but the heading line is blank or indented by three
    columns or more (`C07_entry_block`). -/
theorem C07_page_lines (hc title modName : Str) (docs : List Entry) (hm : '\n' ∉ modName)
    (h : ∀ e ∈ docs, e.OneLine) :
    splitNl (processDocs hc title modName docs).render =
      splitNl (renderHeading hc (titleOf title docs)) ++
        (tlinesList ((renderedDocs modName docs).map Entry.toElem)).map (·.2) := by
  rw [C07_doc_order, splitNl_append_nl,
    C07_renderElems_tlines _ 0 ((C07_singleLineList_iff _).2 (C07_renderedDocs_single_line modName hm docs h)),
    map_place_zero]

/-- One entry on the page (depth 0): a blank line, its heading line `.. kind:: argument` at column 0, a blank line
    iff it has content, and then its content — notes, warnings, fields, doc text, class members — every line of
    which is blank or indented by three columns or more. -/
theorem C07_entry_lines (e : Entry) (h : e.OneLine) :
    ∃ arg body, e.toElem = .directive e.dirName [arg] [] body ∧
      splitNl (e.toElem.render 0) =
        [] :: (lit ".. " ++ e.dirName ++ lit ":: " ++ arg) ::
          ((if body.isEmpty then [] else [[]]) ++ splitNl (renderElems 1 body)) ∧
      Blocky 1 (renderElems 1 body) := by
  obtain ⟨arg, body, he⟩ := C07_entry_is_directive e
  have hs := C07_entry_single_line e h
  rw [he] at hs
  obtain ⟨h1, h2, _⟩ := C07_entry_block 0 e.dirName [arg] [] body hs
  refine ⟨arg, body, he, ?_, h2⟩
  rw [he, h1]
  simp [indent_zero, joinWith]

/-! ## Non-vacuity: concrete entries -/

section Examples

/-- a class with a super class, a constructor, a member (macro, typed parameters), an attribute with a value and an
    inner class; multi-line doc texts -/
def exClass : Entry :=
  .cls ['C'] (lit "A class.\n\nSecond paragraph.") [['B']] [['I']]
    [{ name := lit "CTOR", doc := lit "ctor", parentClass := ['C'], paramTypes := [lit "int"], params := [lit "x"],
       isCtor := true, isMacro := false }]
    [{ name := lit "m", doc := lit "does m\n:param y: given", parentClass := ['C'],
       paramTypes := [lit "str", lit "args"], params := [lit "y"], isCtor := false, isMacro := true }]
    [{ name := lit "a", doc := lit "attr doc", parentClass := ['C'], dflt := some (lit "7") }]

def exVar : Entry := .var (lit "V") (lit "line 1\n   indented\n\nline 4") .string (some (lit "a;b"))

def exFunc : Entry := .func true (lit "f") (lit "doc\n\n:param a: x") [lit "a", lit "b"] true

theorem C07_exClass_oneLine : exClass.OneLine := by
  rw [exClass]
  repeat rw [lit_ofList]
  decide

theorem C07_exVar_oneLine : exVar.OneLine := by
  rw [exVar]
  repeat rw [lit_ofList]
  decide

theorem C07_exFunc_oneLine : exFunc.OneLine := by
  rw [exFunc]
  repeat rw [lit_ofList]
  decide

theorem C07_examples_oneLine : ∀ e ∈ [exClass, exVar, exFunc], e.OneLine := by
  intro e he
  simp only [List.mem_cons, List.mem_nil_iff, or_false] at he
  rcases he with rfl | rfl | rfl
  · exact C07_exClass_oneLine
  · exact C07_exVar_oneLine
  · exact C07_exFunc_oneLine

example : SingleLine exClass.toElem := C07_entry_single_line _ C07_exClass_oneLine
example (d : Nat) : splitNl (exClass.toElem.render d) = exClass.toElem.tlines.map (place d) :=
  C07_render_tlines _ d (C07_entry_single_line _ C07_exClass_oneLine)
example (d : Nat) : Blocky d (exClass.toElem.render d) := C07_elem_blocky _ d (C07_entry_single_line _ C07_exClass_oneLine)
example (d : Nat) : splitNl (exVar.toElem.render d) = exVar.toElem.tlines.map (place d) :=
  C07_render_tlines _ d (C07_entry_single_line _ C07_exVar_oneLine)
example : splitNl (processDocs ['#'] (lit "t") (lit "m") [exClass, exVar, exFunc]).render =
    splitNl (renderHeading ['#'] (lit "t")) ++
      (tlinesList ((renderedDocs (lit "m") [exClass, exVar, exFunc]).map Entry.toElem)).map (·.2) :=
  C07_page_lines _ _ _ _ (by simp [lit]) C07_examples_oneLine

example : ∃ arg body, exClass.toElem = .directive (lit "py:class") [arg] [] body ∧
    splitNl (exClass.toElem.render 0) =
      [] :: (lit ".. " ++ lit "py:class" ++ lit ":: " ++ arg) ::
        ((if body.isEmpty then [] else [[]]) ++ splitNl (renderElems 1 body)) ∧
    Blocky 1 (renderElems 1 body) := C07_entry_lines exClass C07_exClass_oneLine

example : splitNl ((Attr.toElem { name := lit "a", doc := lit "attr doc", parentClass := ['C'], dflt := some (lit "7") }).render 1)
    = [[], lit "   .. py:attribute:: a", lit "      :value: 7", [], lit "      attr doc", []] := by
  have h : SingleLine (Attr.toElem { name := lit "a", doc := lit "attr doc", parentClass := ['C'], dflt := some (lit "7") }) :=
    C07_attr_single_line _ ⟨not_mem_lit_of (by decide), fun v hv => Option.some.inj hv ▸ not_mem_lit_of (by decide)⟩
  rw [C07_render_tlines _ 1 h]
  simp only [Attr.toElem, Elem.tlines]
  repeat rw [lit_ofList]
  decide

example (body : List Elem) (hb : exClass.toElem = .directive (lit "py:class") [['C']] [] body) :
    (splitNl (renderElems 1 body)).map dedent1 = splitNl (renderElems 0 body) := by
  apply C07_dedent_body 0 body
  have h := C07_entry_single_line _ C07_exClass_oneLine
  rw [hb] at h
  simp only [SingleLine] at h
  exact (C07_singleLineList_iff body).1 h.2.2.2

/-- Why there is no plain "indent homomorphism" (`render (d+1)` = `render d` with three spaces in front of every
    non-empty line): an empty line *inside a paragraph* is produced through `get_indents` and does get the
    prefix, while the templates' separator lines do not.  Hence the tagged formulation above. -/
example : splitNl ((Elem.para (lit "a\n\nb")).render 1) ≠
    (splitNl ((Elem.para (lit "a\n\nb")).render 0)).map (fun l => if l = [] then l else indent 1 ++ l) := by
  rw [lit_ofList]
  decide

/-- an item or argument with a line break breaks the block structure: the hypothesis of `C07_elem_blocky` is needed -/
example : ¬ Blocky 1 ((Elem.field ['n'] ['a', '\n', 'b']).render 1) := by
  intro h
  have := h ['b'] (by simp [Elem.render, renderField, splitNl, indent])
  simp [indent] at this

end Examples

end Cminx
