import CminxLemmas.SpecLemmas
import CminxProps.TAgg
/-!
# C02 — exactly one entry per documentable command, in source order

The listener state machine (`aggregate`, `CminxModel/Agg.lean`) computes the structural specification
(`Module.entries`, `itemsSpec`, `Item.spec` in `CminxModel/Spec.lean`) — `C02_refines`, an instance of `T_agg`.
The remaining theorems read the property off the specification under the default configuration `({} : Cfg)`
(all `include_undocumented_*` flags on, identity strip functions): every item contributes independently of its
siblings, in source order; one theorem per command kind says what the item contributes (`Contrib.top` = entries
appended to `documented`; `Contrib.members/ctors/attrs/inner` = what goes into the innermost shown class); command
names are read through `asciiLower` only, and nothing of the layout (blanks, line breaks, line comments, bracket
comments) is read at all.

A member/test declaration together with the function/macro definition that implements it is one `Item.decl`.
-/
namespace Cminx

theorem C02_refines (m : Module) (hwf : itemsWf false m.items = true) :
    ∃ st, aggregate {} m.events = .ok st ∧ st.documented = m.entries {} ∧ st.errors = 0 := by
  obtain ⟨st, h1, h2, h3, _⟩ := T_agg {} m hwf (Or.inl rfl)
  exact ⟨st, h1, h2, h3⟩

/-- the entries of a module: the module entry, if the file starts with a module doccomment, then the
entries of the items in source order -/
theorem C02_entries (cfg : Cfg) (m : Module) :
    m.entries cfg =
      (match m.modDoc with
       | some d => [Entry.module (moduleNameDoc d.tokenText).1 (moduleNameDoc d.tokenText).2]
       | none => []) ++ (itemsSpec cfg .none m.items).top :=
  Module.entries_eq cfg m

/-! ## source order; siblings are independent -/

theorem C02_order (cfg : Cfg) (ctx : ClsCtx) (a b : List Item) :
    itemsSpec cfg ctx (a ++ b) = itemsSpec cfg ctx a ++ itemsSpec cfg ctx b :=
  itemsSpec_append cfg ctx a b

theorem C02_order_cons (cfg : Cfg) (ctx : ClsCtx) (i : Item) (is : List Item) :
    (itemsSpec cfg ctx (i :: is)).top = (i.spec cfg ctx).top ++ (itemsSpec cfg ctx is).top := by
  rw [itemsSpec_cons]; rfl

theorem C02_order_nil (cfg : Cfg) (ctx : ClsCtx) : itemsSpec cfg ctx [] = {} := itemsSpec_nil cfg ctx

/-- an item in the middle of a list: the entries before it come from the items before it, those after it from
the items after it -/
theorem C02_order_mid (cfg : Cfg) (ctx : ClsCtx) (pre post : List Item) (it : Item) :
    (itemsSpec cfg ctx (pre ++ it :: post)).top =
      (itemsSpec cfg ctx pre).top ++ (it.spec cfg ctx).top ++ (itemsSpec cfg ctx post).top :=
  itemsSpec_append_cons_top cfg ctx pre post it

/-- `function(name p…) … endfunction()`: one function entry, then the entries of the body -/
theorem C02_function (ctx : ClsCtx) (doc : Option DocC) (o : Call) (body : List Item) (c : Call)
    (hn : o.lname = lit "function") :
    (Item.block doc o body c).spec {} ctx =
      { top := [.func false (o.singles.headD []) (docTextOf doc) (o.singles.drop 1)
                  (isInfix (lit ":param **kwargs:") (docTextOf doc) || itemsCpaDirect body)] } ++
        itemsSpec {} ctx body := by
  rw [spec_block_def {} ctx doc o body c false hn]
  simp [defEntry]

/-- `macro(name p…) … endmacro()`: one macro entry, then the entries of the body -/
theorem C02_macro (ctx : ClsCtx) (doc : Option DocC) (o : Call) (body : List Item) (c : Call)
    (hn : o.lname = lit "macro") :
    (Item.block doc o body c).spec {} ctx =
      { top := [.func true (o.singles.headD []) (docTextOf doc) (o.singles.drop 1)
                  (isInfix (lit ":param **kwargs:") (docTextOf doc) || itemsCpaDirect body)] } ++
        itemsSpec {} ctx body := by
  rw [spec_block_def {} ctx doc o body c true hn]
  simp [defEntry]

/-- `option(name help [default])`: one option entry, documented or not -/
theorem C02_option (ctx : ClsCtx) (doc : Option DocC) (call : Call) (hn : call.lname = lit "option") :
    (Item.cmd doc call).spec {} ctx =
      { top := [.opt (call.singles.headD []) (docTextOf doc) (call.singles.getD 1 []) call.singles[2]?] } := by
  rw [spec_cmd_option {} ctx doc call hn]
  simp

/-- `add_test(…)`: one CTest entry, documented or not -/
theorem C02_add_test (ctx : ClsCtx) (doc : Option DocC) (call : Call) (hn : call.lname = lit "add_test") :
    (Item.cmd doc call).spec {} ctx =
      { top := [.ctest (nameOf call.allTexts).1 (docTextOf doc) (ctestParams call.allTexts)] } := by
  rw [spec_cmd_add_test {} ctx doc call hn]
  simp

/-- a documented `set(name v…)`: one variable entry -/
theorem C02_set_documented (ctx : ClsCtx) (d : DocC) (call : Call) (name : Str) (vals : List Str)
    (hn : call.lname = lit "set") (hs : call.singles = name :: vals) :
    (Item.cmd (some d) call).spec {} ctx =
      { top := [.var name (cleanDoc d.tokenText)
          (match vals with | [] => .unset | [_] => .string | _ => .list)
          (match vals with | [] => none | [v] => some (unquote v) | vs => some (joinWith [' '] vs))] } := by
  rw [spec_cmd_set {} ctx (some d) call hn]
  match vals, hs with
  | [], hs => simp [hs, docTextOf]
  | [v], hs => simp [hs, docTextOf]
  | v :: w :: vs, hs => simp [hs, docTextOf]

/-- a `set()` without a doccomment: nothing -/
theorem C02_set_undocumented (ctx : ClsCtx) (call : Call) (hn : call.lname = lit "set") :
    (Item.cmd none call).spec {} ctx = {} :=
  spec_cmd_set {} ctx none call hn

/-- `cpp_class(name base…) … cpp_end_class()`: one class entry holding what the body contributes to its class,
followed by the top-level entries of the body; towards an enclosing shown class it contributes its name to the
inner-class list and nothing else -/
theorem C02_class (ctx : ClsCtx) (doc : Option DocC) (o : Call) (body : List Item) (c : Call)
    (hn : o.lname = lit "cpp_class") :
    (Item.block doc o body c).spec {} ctx =
      { top := .cls (o.singles.headD []) (docTextOf doc) (o.singles.drop 1) (itemsSpec {} .shown body).inner
                 (itemsSpec {} .shown body).ctors (itemsSpec {} .shown body).members
                 (itemsSpec {} .shown body).attrs :: (itemsSpec {} .shown body).top,
        inner := if ctx = .shown then [o.singles.headD []] else [] } := by
  rw [spec_block_class {} ctx doc o body c hn]
  simp

/-- `ct_add_test(…)` + implementing definition: one test entry, then the entries of the implementation's body;
the implementing `function`/`macro` itself gets no entry -/
theorem C02_test (ctx : ClsCtx) (doc : Option DocC) (d impl : Call) (body : List Item) (c : Call)
    (hn : d.lname = lit "ct_add_test") :
    (Item.decl doc d impl body c).spec {} ctx =
      { top := [.test false (nameOf d.singles).1 (docTextOf doc) (d.singles.contains (lit "EXPECTFAIL"))
                  (impl.singles.drop 2) (impl.lname = lit "macro")] } ++ itemsSpec {} ctx body := by
  rw [spec_decl_test {} ctx doc d impl body c false hn]
  simp

/-- `ct_add_section(…)` + implementing definition: one section entry, then the body's entries -/
theorem C02_section (ctx : ClsCtx) (doc : Option DocC) (d impl : Call) (body : List Item) (c : Call)
    (hn : d.lname = lit "ct_add_section") :
    (Item.decl doc d impl body c).spec {} ctx =
      { top := [.test true (nameOf d.singles).1 (docTextOf doc) (d.singles.contains (lit "EXPECTFAIL"))
                  (impl.singles.drop 2) (impl.lname = lit "macro")] } ++ itemsSpec {} ctx body := by
  rw [spec_decl_test {} ctx doc d impl body c true hn]
  simp

/-- `cpp_member(…)` + implementing definition inside a class: exactly one element in the class's method list;
no top-level entry for the declaration nor for the implementing definition (the body's entries follow) -/
theorem C02_member (doc : Option DocC) (d impl : Call) (body : List Item) (c : Call)
    (hn : d.lname = lit "cpp_member") :
    (Item.decl doc d impl body c).spec {} .shown =
      { members := [methodOf {} doc d impl false] } ++ itemsSpec {} .shown body := by
  rw [spec_decl_member {} .shown doc d impl body c false hn]
  simp

/-- `cpp_constructor(…)` + implementing definition inside a class: exactly one element in the constructor list -/
theorem C02_ctor (doc : Option DocC) (d impl : Call) (body : List Item) (c : Call)
    (hn : d.lname = lit "cpp_constructor") :
    (Item.decl doc d impl body c).spec {} .shown =
      { ctors := [methodOf {} doc d impl true] } ++ itemsSpec {} .shown body := by
  rw [spec_decl_member {} .shown doc d impl body c true hn]
  simp

/-- `cpp_attr(cls name [default])` inside a class: exactly one element in the attribute list, nothing else -/
theorem C02_attr (doc : Option DocC) (call : Call) (hn : call.lname = lit "cpp_attr") :
    (Item.cmd doc call).spec {} .shown =
      { attrs := [{ name := call.singles.getD 1 [], doc := docTextOf doc, parentClass := call.singles.headD [],
                    dflt := call.singles[2]? }] } := by
  rw [spec_cmd_attr {} .shown doc call hn]
  simp

/-- any other single command that carries a doccomment: one generic entry showing the lower-cased command name
and the arguments as written, in order (a parenthesised group is rebuilt as `(a b …)`, see `Arg.text`) -/
theorem C02_generic_documented (ctx : ClsCtx) (d : DocC) (call : Call)
    (h1 : call.lname ≠ lit "set") (h2 : call.lname ≠ lit "option") (h3 : call.lname ≠ lit "add_test")
    (h4 : call.lname ≠ lit "cpp_attr") (h5 : call.lname ≠ lit "cmake_parse_arguments") :
    (Item.cmd (some d) call).spec {} ctx =
      { top := [.generic (asciiLower call.name) (cleanDoc d.tokenText) (argTexts (toArgs call.args))] } := by
  rw [spec_cmd_generic {} ctx (some d) call h1 h2 h3 h4 h5]; rfl

/-- when all arguments are plain tokens the generic entry shows exactly their texts, in order -/
theorem C02_generic_tokens (ctx : ClsCtx) (d : DocC) (call : Call) (ts : List (Sep × ArgTok))
    (h1 : call.lname ≠ lit "set") (h2 : call.lname ≠ lit "option") (h3 : call.lname ≠ lit "add_test")
    (h4 : call.lname ≠ lit "cpp_attr") (h5 : call.lname ≠ lit "cmake_parse_arguments")
    (ha : call.args = ts.map (fun p => SArg.tok p.1 p.2)) :
    (Item.cmd (some d) call).spec {} ctx =
      { top := [.generic (asciiLower call.name) (cleanDoc d.tokenText) (ts.map (fun p => p.2.text))] } := by
  rw [C02_generic_documented ctx d call h1 h2 h3 h4 h5, ha, argTexts_toArgs_toks]

/-- any other single command without a doccomment: nothing -/
theorem C02_generic_undocumented (ctx : ClsCtx) (call : Call)
    (h1 : call.lname ≠ lit "set") (h2 : call.lname ≠ lit "option") (h3 : call.lname ≠ lit "add_test")
    (h4 : call.lname ≠ lit "cpp_attr") (h5 : call.lname ≠ lit "cmake_parse_arguments") :
    (Item.cmd none call).spec {} ctx = {} := by
  rw [spec_cmd_generic {} ctx none call h1 h2 h3 h4 h5]; rfl

/-- `if`/`foreach`/`while` blocks (any block that is not a definition or a class): a generic entry for the
opening command iff it carries a doccomment; the entries of the body, in the same class context -/
theorem C02_loop_block (ctx : ClsCtx) (doc : Option DocC) (o : Call) (body : List Item) (c : Call)
    (h1 : o.lname ≠ lit "function") (h2 : o.lname ≠ lit "macro") (h3 : o.lname ≠ lit "cpp_class") :
    (Item.block doc o body c).spec {} ctx =
      (match doc with
       | some d => { top := [.generic (asciiLower o.name) (cleanDoc d.tokenText) (argTexts (toArgs o.args))] }
       | none => {}) ++ itemsSpec {} ctx body := by
  rw [spec_block_other {} ctx doc o body c h1 h2 h3]; cases doc <;> rfl

/-- the closing command of a block (`endfunction`, `endif`, `cpp_end_class`, …) is never read by the specification -/
theorem C02_closer_irrelevant (cfg : Cfg) (ctx : ClsCtx) (doc : Option DocC) (o : Call) (body : List Item) (c c' : Call) :
    (Item.block doc o body c).spec cfg ctx = (Item.block doc o body c').spec cfg ctx := by
  simp [Item.spec]

/-- a doccomment not followed by a command: nothing -/
theorem C02_dangling (cfg : Cfg) (ctx : ClsCtx) (d : DocC) : (Item.dangling d).spec cfg ctx = {} :=
  spec_dangling cfg ctx d

/-- `cmake_parse_arguments(…)`: no entry of its own -/
theorem C02_cpa (cfg : Cfg) (ctx : ClsCtx) (doc : Option DocC) (call : Call)
    (hn : call.lname = lit "cmake_parse_arguments") : (Item.cmd doc call).spec cfg ctx = {} :=
  spec_cmd_cpa cfg ctx doc call hn

/-- the parse-tree arguments, hence everything the specification reads of a call besides its name, are untouched
by respelling the name -/
theorem C02_recase_sim (c : Call) (n' : Str) (h : asciiLower n' = asciiLower c.name) : c.CaseEq (c.recase n') :=
  ⟨rfl, h⟩

/-- two item lists of the same shape whose corresponding commands differ only in the letter case of the command
name (`Call.CaseEq`), with identical doccomments -/
def SameUpToCase (a b : List Item) : Prop := itemsRel Call.CaseEq Eq a b

/-- two item lists of the same shape whose corresponding commands have the same lower-cased name and the same
parse-tree arguments (`Call.Sim`) — every separator, i.e. all blanks, line breaks, line comments and bracket
comments between tokens, may differ — and whose corresponding doccomment tokens have the same text -/
def SameUpToLayout (a b : List Item) : Prop := itemsRel Call.Sim DocSim a b

theorem SameUpToCase.layout {a b : List Item} (h : SameUpToCase a b) : SameUpToLayout a b :=
  itemsRel.mono (fun _ _ h => h.sim) (fun _ _ h => h ▸ rfl) a b h

/-- The specification reads no separator: annotation comments, whatever they contain, produce nothing and
change nothing. -/
theorem C02_layout (cfg : Cfg) (ctx : ClsCtx) (a b : List Item) (h : SameUpToLayout a b) :
    itemsSpec cfg ctx a = itemsSpec cfg ctx b :=
  itemsSpec_rel DocSim.obs cfg ctx a b h

/-- Command names are read through `asciiLower` only. -/
theorem C02_case (cfg : Cfg) (ctx : ClsCtx) (a b : List Item) (h : SameUpToCase a b) :
    itemsSpec cfg ctx a = itemsSpec cfg ctx b :=
  C02_layout cfg ctx a b h.layout

/-- well-formedness and the K1 guard are invariant as well -/
theorem C02_layout_wf (inClass : Bool) (a b : List Item) (h : SameUpToLayout a b) :
    itemsWf inClass a = itemsWf inClass b ∧ itemsHaveDocumentedClass a = itemsHaveDocumentedClass b :=
  ⟨itemsWf_rel inClass a b h, itemsHaveDocumentedClass_rel DocSim.obs a b h⟩

/-- …hence, by `T_agg`, the listener records the same `documented` list for two well-formed modules that differ
only in letter case of command names, layout and annotation comments (outside the K1 region when
`include_undocumented_cpp_class` is off; always under the default configuration) -/
theorem C02_case_machine (cfg : Cfg) (m m' : Module) (hwf : itemsWf false m.items = true)
    (hk1 : cfg.inclCppClass = true ∨ itemsHaveDocumentedClass m.items = false)
    (hdoc : DocSim m.modDoc m'.modDoc) (h : SameUpToLayout m.items m'.items) :
    ∃ st st', aggregate cfg m.events = .ok st ∧ aggregate cfg m'.events = .ok st' ∧
      st.documented = st'.documented ∧ st.errors = 0 ∧ st'.errors = 0 := by
  have hinv := C02_layout_wf false m.items m'.items h
  obtain ⟨st, h1, h2, h3, _⟩ := T_agg cfg m hwf hk1
  obtain ⟨st', h1', h2', h3', _⟩ := T_agg cfg m' (hinv.1 ▸ hwf) (hinv.2 ▸ hk1)
  refine ⟨st, st', h1, h1', ?_, h3, h3'⟩
  rw [h2, h2', C02_entries, C02_entries, C02_layout cfg .none _ _ h]
  congr 1
  unfold DocSim at hdoc
  cases hm : m.modDoc <;> cases hm' : m'.modDoc <;> simp_all

/-- a generic entry is a `.. function:: name(a₁ a₂ …)` directive with the generic-invocation warning -/
theorem C02_render_generic (name doc : Str) (args : List Str) :
    (Entry.generic name doc args).toElem =
      .directive (lit "function") [name ++ lit "(" ++ joinWith [' '] args ++ lit ")"] []
        [.directive (lit "warning") [genericWarning] [] [], .para doc] := by
  rw [Entry.toElem, signature_eq]

/-- `Documenter.process_docs` renders the entries one by one in list order (a path-named module entry is put in
front when the file has no module doccomment); only module entries are touched by `nameModule` -/
theorem C02_rendered_in_order (hc title modName : Str) (docs : List Entry) :
    (processDocs hc title modName docs).body =
      ((if docs.any isModule then docs else .module modName [] :: docs).map (nameModule modName)).map Entry.toElem ∧
    ∀ e, isModule e = false → nameModule modName e = e := by
  refine ⟨rfl, ?_⟩
  intro e he
  cases e <;> first | rfl | simp [isModule] at he

/-! ## non-vacuity -/

example : ∃ st, aggregate {} exModule.events = .ok st ∧ st.documented = exModule.entries {} ∧ st.errors = 0 :=
  C02_refines exModule exModule_wf

/-- an undocumented function whose body holds an undocumented option and a plain command -/
example : ((Item.block none (mkCall "FUNCTION" ["f", "x"])
      [.cmd none (mkCall "option" ["O", "help"]), .cmd none (mkCall "message" ["hi"])]
      (mkCall "endfunction" [])).spec {} .none).top =
    [.func false (lit "f") [] [lit "x"] false, .opt (lit "O") [] (lit "help") none] := by
  rw [C02_function .none none _ _ _ (by decide +kernel)]
  decide +kernel

/-- a class with one member, one attribute and a documented `message` in between -/
def exSpecClass : Item :=
  .block none (mkCall "cpp_class" ["K"])
    [ .decl none (mkCall "cpp_member" ["go", "K", "int"]) (mkCall "function" ["_go", "self", "n"])
        [.cmd none (mkCall "cmake_parse_arguments" ["A", "", "", ""])] (mkCall "endfunction" []),
      .cmd (some (mkDoc "" ["Say."])) (mkCall "MESSAGE" ["hi", "there"]),
      .cmd none (mkCall "cpp_attr" ["K", "color", "red"]) ]
    (mkCall "cpp_end_class" [])

example : (exSpecClass.spec {} .none).top =
    [ .cls (lit "K") [] [] []
        [] [{ name := lit "go", doc := [], parentClass := lit "K", paramTypes := [lit "int"], params := [lit "n"],
              isCtor := false, isMacro := false }]
        [{ name := lit "color", doc := [], parentClass := lit "K", dflt := some (lit "red") }],
      .generic (lit "message") (docTextOf (some (mkDoc "" ["Say."]))) [lit "hi", lit "there"] ] := by
  rw [exSpecClass, C02_class .none none _ _ _ (by decide +kernel)]
  decide +kernel

example : (Item.decl none (mkCall "cpp_member" ["go", "K", "int"]) (mkCall "macro" ["_go", "self", "n"]) []
      (mkCall "endmacro" [])).spec {} .shown =
    { members := [{ name := lit "go", doc := [], parentClass := lit "K", paramTypes := [lit "int"],
                    params := [lit "n"], isCtor := false, isMacro := true }] } := by
  rw [C02_member none _ _ _ _ (by decide +kernel)]; rfl

/-- the same function written in another letter case, with other blanks and with comments between the tokens -/
def exPlain : List Item :=
  [ .block none (mkCall "function" ["f", "x"]) [.cmd none (mkCall "option" ["O", "help"])] (mkCall "endfunction" []) ]

def exRespelt : List Item :=
  [ .block none (mkCall "FuncTion" ["f", "x"]) [.cmd none (mkCall "OPTION" ["O", "help"])] (mkCall "ENDFUNCTION" []) ]

def exCommented : List Item :=
  [ .block none
      { pre := [.lineComment (lit " function(g)") (some false), .nl true], name := lit "FUNCTION", sp := 2, close := [.tabs 1],
        args := [.tok [.bracketComment 1 (lit " option(P \"h\") ")] (.bare (lit "f")),
                 .tok [.nl false, .lineComment (lit "[[[ not a doccomment") (some false)] (.bare (lit "x"))] }
      [.cmd none (mkCall "option" ["O", "help"])]
      { pre := [.nl false], name := lit "endfunction", sp := 0, args := [], close := [.bracketComment 0 (lit "x")] } ]

example : SameUpToCase exPlain exRespelt := by
  simp [SameUpToCase, exPlain, exRespelt, itemsRel, Item.Rel, Call.CaseEq, Call.recase, mkCall]
  decide +kernel

example : SameUpToLayout exPlain exCommented ∧ itemsSpec {} .none exPlain = itemsSpec {} .none exCommented := by
  have h : SameUpToLayout exPlain exCommented := by
    simp [SameUpToLayout, exPlain, exCommented, itemsRel, Item.Rel, Call.Sim, DocSim, mkCall]
    exact ⟨⟨by decide +kernel, rfl⟩, by decide +kernel⟩
  exact ⟨h, C02_layout {} .none _ _ h⟩

end Cminx
