import CminxLemmas.GlobLemmas
/-!
# C15 (gitignore rules) — what the exclude patterns match

`C15.lean` proves the walk correct for *every* exclusion predicate.  This file is about the predicate itself:
the model of pathspec's gitwildmatch translation in `CminxModel/Glob.lean` (normalisation of the pattern into
segments, translation into a regular expression, search in the normalised path, last match wins), and proves
the rules the property names:

* a bare name matches at any depth (`C15G_bare_name`) — and, because CMinx matches *absolute* paths, also at
  any depth above the input directory (`C15G_K7_above_input`, the formal content of known finding K7);
* a trailing slash restricts the pattern to directories (`C15G_dir_only`, `C15G_dir_only_not_file`);
* `*` globs inside one path component (`C15G_glob_component`), `**/` in front of a bare name changes nothing
  (`C15G_dstar_prefix`), a pattern that starts with `/` is anchored: an absolute path matches itself and what is
  below it (`C15G_anchored`);
* several patterns: the last pattern that matches decides (`C15G_last_wins`); without negations the result is
  the disjunction, so neither the order of the patterns nor the source that supplied them matters
  (`C15G_union`, `C15G_union_perm`, `C15G_append_mono`);
* the bridge to the walk: `exclOf` computed from bare-name patterns is "some component of the absolute path is
  one of the names" (`C15G_exclOf_bare`).

Paths are the strings CMinx builds (`pstr`): components joined by `/`, a trailing `/` for directories; the leading
`/` of the absolute path is removed by `normalizeFile`.  `pstr`, `PathOk` (well-formed components), `globWord` (the
language of a one-segment glob) and the lemmas about the model are in `CminxLemmas/GlobLemmas.lean`.
-/
namespace Cminx
namespace Glob

/-- a name without any character that is special in a pattern -/
def Plain (n : Str) : Prop :=
  n ≠ [] ∧ (∀ c ∈ n, c ≠ '/' ∧ c ≠ '*' ∧ c ≠ '?' ∧ c ≠ '[' ∧ c ≠ '\\' ∧ c ≠ '\n') ∧
  n.head? ≠ some '#' ∧ n.head? ≠ some '!' ∧ (∀ c, n.getLast? = some c → pyIsSpace c = false)

instance (n : Str) : Decidable (Plain n) := by unfold Plain; infer_instance

/-- a one-segment pattern: no `/`, no range notation, no dangling escape, not blank/comment/negation, not `*`/`**` -/
def OneSeg (g : Str) : Prop :=
  g ≠ [] ∧ (∀ c ∈ g, c ≠ '/' ∧ c ≠ '[' ∧ c ≠ '\n') ∧ (∃ re, segGlob g = .ok re) ∧
  g.head? ≠ some '#' ∧ g.head? ≠ some '!' ∧ (∀ c, g.getLast? = some c → pyIsSpace c = false) ∧
  g ≠ ['*'] ∧ g ≠ dstar

theorem Plain.ne {n : Str} (hn : Plain n) : n ≠ [] := hn.1

theorem Plain.noSlash {n : Str} (hn : Plain n) : ∀ x ∈ n, x ≠ '/' := fun c hc => (hn.2.1 c hc).1

theorem Plain.noMeta {n : Str} (hn : Plain n) : NoMeta n := fun c hc =>
  have ⟨_, hstar, hquest, hbracket, hescape, _⟩ := hn.2.1 c hc
  ⟨hescape, hstar, hquest, hbracket⟩

theorem Plain.head_hash {n : Str} (hn : Plain n) : n.head? ≠ some '#' := hn.2.2.1

theorem Plain.head_bang {n : Str} (hn : Plain n) : n.head? ≠ some '!' := hn.2.2.2.1

theorem Plain.last {n : Str} (hn : Plain n) : ∀ c, n.getLast? = some c → pyIsSpace c = false := hn.2.2.2.2

theorem Plain.ne_dstar {n : Str} (hn : Plain n) : n ≠ dstar :=
  dstar_ne_of_noStar n (fun x hx => (hn.noMeta x hx).2.1)

theorem Plain.ne_star {n : Str} (hn : Plain n) : n ≠ ['*'] := by
  intro e; subst e; exact (hn.noMeta '*' (by simp)).2.1 rfl

theorem Plain.segRe {n : Str} (hn : Plain n) : SegRe (litRe n) :=
  segGlob_SegRe n hn.noSlash _ (segGlob_litRe n hn.noMeta)

theorem OneSeg.gseg {g : Str} : OneSeg g → GSeg g
  | ⟨_, hch, hre, _, _, _, hstar, hdstar⟩ => ⟨fun x hx => (hch x hx).1, hdstar, hstar, hre⟩

theorem OneSeg.compile_eq_core {g : Str} (hg : OneSeg g) : compile g = compileCore true g :=
  have ⟨hne, _, _, hhash, hbang, hlast, _, _⟩ := hg
  compile_clean_pos g hne hlast hhash (fun e => hg.gseg.noSlash '/' (by simp [e]) rfl) hbang

theorem Plain.oneSeg {n : Str} (hn : Plain n) : OneSeg n :=
  have hch : ∀ c ∈ n, c ≠ '/' ∧ c ≠ '[' ∧ c ≠ '\n' := fun c hc =>
    have ⟨hslash, _, _, hbracket, _, hnl⟩ := hn.2.1 c hc
    ⟨hslash, hbracket, hnl⟩
  ⟨hn.ne, hch, ⟨_, segGlob_litRe n hn.noMeta⟩, hn.head_hash, hn.head_bang, hn.last, hn.ne_star, hn.ne_dstar⟩

theorem Plain.compile_eq_core {n : Str} (hn : Plain n) : compile n = compileCore true n := hn.oneSeg.compile_eq_core

theorem Plain.gseg {n : Str} (hn : Plain n) : GSeg n := hn.oneSeg.gseg

theorem OneSeg.core_hits {g : Str} (hg : OneSeg g) :
    ∃ re, (∀ excl, compileCore excl g = .ok (.pat excl true re)) ∧
      ∀ e cs d, PathOk cs → (Compiled.pat e true re).hits (pstr cs d) = (comps cs d).any (globWord g) := by
  have hs := hg.gseg
  obtain ⟨re, hre, hm⟩ := compileCore_segs g true false [g] (by simp) (by simpa using hs)
    (splitSlash_noSlash g hs.noSlash) (normSegs_one g hg.1 hs.ne_dstar)
  exact ⟨re, hre, fun e cs d hp => (hm e cs d hp).trans (anySuffix_chainOk_one g false _)⟩

/-- `C15G_glob_component` with the expression named before the path: it does not depend on the path -/
theorem OneSeg.hits {g : Str} (hg : OneSeg g) :
    ∃ re, compile g = .ok (.pat true true re) ∧
      ∀ cs, PathOk cs → ∀ d, (Compiled.pat true true re).hits (pstr cs d) = cs.any (globWord g) := by
  obtain ⟨re, hre, hm⟩ := hg.core_hits
  refine ⟨re, hg.compile_eq_core.trans (hre true), fun cs hp d => ?_⟩
  rw [hm _ _ _ hp, comps, List.any_append]
  cases d with
  | false => simp
  | true =>
    -- the empty component behind the trailing slash: a glob that takes it takes every component
    rw [if_pos rfl, List.any_cons, List.any_nil, Bool.or_false, Bool.or_eq_left_iff_imp]
    intro h
    obtain ⟨c0, cs', rfl⟩ := List.exists_cons_of_ne_nil hp.1
    obtain ⟨G, hG⟩ := hg.gseg.ok
    rw [globWord_of_ok g G hG] at h
    refine List.any_eq_true.2 ⟨c0, List.mem_cons_self, ?_⟩
    rw [globWord_of_ok g G hG]
    exact segGlob_empty g G hG hg.1 _ h c0 (fun x hx => ((hp.2 c0 List.mem_cons_self).2 x hx).1)

/-- `*` and `?` glob inside one component: a one-segment pattern hits a path iff some component, as a whole, is in
    the glob's language -/
theorem C15G_glob_component (g : Str) (hg : OneSeg g) (cs : List Str) (hp : PathOk cs) (isDir : Bool) :
    ∃ re, compile g = .ok (.pat true true re) ∧
      (Compiled.pat true true re).hits (pstr cs isDir) = cs.any (globWord g) :=
  let ⟨re, h1, h2⟩ := hg.hits
  ⟨re, h1, h2 cs hp isDir⟩

theorem Plain.hits {n : Str} (hn : Plain n) :
    ∃ re, compile n = .ok (.pat true true re) ∧
      ∀ cs, PathOk cs → ∀ d, (Compiled.pat true true re).hits (pstr cs d) = decide (n ∈ cs) := by
  obtain ⟨re, h1, h2⟩ := hn.oneSeg.hits
  refine ⟨re, h1, fun cs hp d => ?_⟩
  rw [h2 cs hp d, funext (globWord_noMeta n hn.noMeta), List.any_beq', List.contains_eq_mem]

/-- "a bare name matches at any depth": the pattern `n` hits a path iff `n` is one of its components -/
theorem C15G_bare_name (n : Str) (hn : Plain n) (cs : List Str) (hp : PathOk cs) (isDir : Bool) :
    ∃ re, compile n = .ok (.pat true true re) ∧
      (Compiled.pat true true re).hits (pstr cs isDir) = decide (n ∈ cs) :=
  let ⟨re, h1, h2⟩ := hn.hits
  ⟨re, h1, h2 cs hp isDir⟩

theorem getLast?_append_singleton_str (n : Str) (x : Char) : (n ++ [x]).getLast? = some x := by simp

theorem slash_last : ∀ c, (['/'] : Str).getLast? = some c → pyIsSpace c = false := by
  intro c hc
  cases hc
  decide

theorem Plain.hits_dir {n : Str} (hn : Plain n) :
    ∃ re, compile (n ++ ['/']) = .ok (.pat true true re) ∧
      ∀ cs, PathOk cs → ∀ d, (Compiled.pat true true re).hits (pstr cs d) = decide (n ∈ (if d then cs else cs.dropLast)) := by
  obtain ⟨re, hre, hm⟩ := compileCore_segs (n ++ ['/']) true true [n] (by simp) (by simpa using hn.gseg)
    (splitSlash_append_slash n hn.noSlash _) (normSegs_dir n hn.ne hn.ne_dstar)
  refine ⟨re, (compile_clean_append n _ hn.ne (by simp) hn.head_hash hn.head_bang slash_last).trans (hre true), fun cs hp d => ?_⟩
  rw [hm _ _ _ hp, if_pos rfl, anySuffix_chainOk_one, if_pos rfl, comps_dropLast, funext (globWord_noMeta n hn.noMeta),
    List.any_beq', List.contains_eq_mem]

/-- "a trailing slash restricts the pattern to directories": `n/` hits a path iff `n` is a component that is
    followed by a slash — a directory on the way, or the entry itself when it is a directory -/
theorem C15G_dir_only (n : Str) (hn : Plain n) (cs : List Str) (hp : PathOk cs) (isDir : Bool) :
    ∃ re, compile (n ++ ['/']) = .ok (.pat true true re) ∧
      (Compiled.pat true true re).hits (pstr cs isDir) = decide (n ∈ (if isDir then cs else cs.dropLast)) :=
  let ⟨re, h1, h2⟩ := hn.hits_dir
  ⟨re, h1, h2 cs hp isDir⟩

/-- in particular a *file* called `n` is not matched by `n/` (unless a directory above it is called `n` too) -/
theorem C15G_dir_only_not_file (n : Str) (hn : Plain n) (ds : List Str) (hp : PathOk (ds ++ [n])) (hnd : n ∉ ds) :
    ∃ c, compile (n ++ ['/']) = .ok c ∧ c.hits (pstr (ds ++ [n]) false) = false ∧ c.hits (pstr (ds ++ [n]) true) = true := by
  obtain ⟨re, h1, h2⟩ := hn.hits_dir
  refine ⟨_, h1, ?_, ?_⟩
  · rw [h2 _ hp false]
    simpa using hnd
  · rw [h2 _ hp true]
    simp

/-- negation: `!n` compiles to the same expression with the verdict "do not exclude" -/
theorem C15G_negation (n : Str) (hn : Plain n) :
    ∃ re, compile n = .ok (.pat true true re) ∧ compile ('!' :: n) = .ok (.pat false true re) := by
  obtain ⟨re, hre, -⟩ := hn.oneSeg.core_hits
  refine ⟨re, hn.compile_eq_core.trans (hre true), ?_⟩
  rw [compile_clean_neg n (fun c hc => hn.last c (by rwa [List.getLast?_cons_of_ne_nil hn.ne] at hc)), hre false]

/-- the language of a glob without regular expressions, for the three forms the theorems of this file meet: `*` takes any
    run of non-slash characters, an ordinary character itself, the empty glob the empty component -/
theorem C15G_globWord_star (g c : Str) : globWord ('*' :: g) c = (List.range (c.length + 1)).any
    (fun i => (c.take i).all (· != '/') && globWord g (c.drop i)) := by
  unfold globWord
  rw [segGlob_star]
  cases segGlob g with
  | error e => simp [Except.map]
  | ok G =>
    simp only [Except.map, Re.m]
    rw [starK_eq_any]
    rfl

theorem C15G_globWord_lit (x : Char) (g c : Str) (hx : x ≠ '\\' ∧ x ≠ '*' ∧ x ≠ '?' ∧ x ≠ '[') :
    globWord (x :: g) c = match c with
      | [] => false
      | y :: c' => y == x && globWord g c' := by
  unfold globWord
  rw [segGlob_lit x g hx]
  cases segGlob g with
  | error e => cases c <;> simp [Except.map]
  | ok G => cases c <;> simp [Except.map]

theorem C15G_globWord_nil (c : Str) : globWord [] c = c.isEmpty := by
  simp [globWord, segGlob]

/-- `**/` in front of a bare name changes nothing -/
theorem C15G_dstar_prefix (n : Str) (hn : Plain n) : compile (dstar ++ '/' :: n) = compile n := by
  rw [hn.compile_eq_core, ← compileCore_dstar_slash true n n [] (splitSlash_noSlash n hn.noSlash) hn.ne (Or.inl rfl)]
  have := compile_clean_append (dstar ++ ['/']) n (by simp [dstar]) hn.ne (by simp [dstar]) (by simp [dstar]) hn.last
  simpa using this

/-- `*` alone hits every path -/
theorem C15G_star_all (cs : List Str) (hp : PathOk cs) (isDir : Bool) :
    ∃ c, compile ['*'] = .ok c ∧ c.hits (pstr cs isDir) = true := by
  refine ⟨.pat true false (.chr .dot), rfl, ?_⟩
  obtain ⟨c, cs, rfl⟩ := List.exists_cons_of_ne_nil hp.1
  obtain ⟨hc0, hcx⟩ := hp.2 c List.mem_cons_self
  obtain ⟨x, r, rfl⟩ := List.exists_cons_of_ne_nil hc0
  have hx : (x != '\n') = true := by simpa using (hcx x List.mem_cons_self).2
  rw [pstr_eq_join _ _ hp.1, comps_cons, join_cons]
  simp [Compiled.hits, searchFrom, hx]

/-- a pattern that starts with `/` is anchored at the root: the absolute path `/n₁/…/n_k` hits exactly the paths
    whose components start with `n₁ … n_k` — itself and everything below it -/
theorem C15G_anchored (ns : List Str) (hns : ns ≠ []) (hpl : ∀ n ∈ ns, Plain n) (cs : List Str) (hp : PathOk cs)
    (isDir : Bool) :
    ∃ re, compile ('/' :: joinWith ['/'] ns) = .ok (.pat true true re) ∧
      (Compiled.pat true true re).hits (pstr cs isDir) = decide (ns <+: cs) := by
  obtain ⟨re, hre, hm⟩ := compileCore_segs ('/' :: joinWith ['/'] ns) false false ns hns (fun n hn => (hpl n hn).gseg)
    (by rw [splitSlash, if_pos rfl, splitSlash_joinWith ns hns (fun n hn => (hpl n hn).noSlash)])
    (by rw [normSegs_root ns (fun n hn => (hpl n hn).ne) (fun n hn => (hpl n hn).ne_dstar)]; simp)
  -- the pattern ends with the last name: that is all the prologue of `compile` asks about
  have hlast := hpl _ (List.getLast_mem hns)
  obtain ⟨pre, hpre⟩ := joinWith_snoc ['/'] ns.dropLast (ns.getLast hns)
  rw [List.dropLast_concat_getLast hns] at hpre
  have hc := compile_clean_append ('/' :: pre) _ (by simp) hlast.ne (by simp) (by simp) hlast.last
  rw [List.cons_append, ← hpre] at hc
  refine ⟨re, hc.trans (hre true), ?_⟩
  rw [hm _ _ _ hp, if_neg Bool.false_ne_true, Bool.eq_iff_iff, chainOk_word ns (fun n hn => (hpl n hn).noMeta), decide_eq_true_iff,
    prefix_comps _ _ ns (fun n hn => (hpl n hn).ne)]

/-- blank lines, comments and a lone `/` never match -/
theorem C15G_skip (p : Str) (h : rstripWs p = [] ∨ p.head? = some '#' ∨ rstripWs p = ['/']) (hb : ¬ (['\\', ' '] : Str).reverse.isPrefixOf p.reverse) :
    compile p = .ok .skip := by
  rw [compile_eq, rstripPat_of_not p hb]
  apply compileP0_skip
  rcases h with h | h | h
  · exact Or.inl h
  · -- `#` is still in front after the stripping, unless nothing is left
    cases hr : rstripWs p with
    | nil => exact Or.inl rfl
    | cons a r =>
      obtain ⟨t, ht⟩ := rstripWs_prefix p
      rw [hr] at ht
      rw [← ht] at h
      exact Or.inr (Or.inl (by simpa using h))
  · exact Or.inr (Or.inr h)

/-- the last pattern that matches decides -/
theorem C15G_last_wins (cs : List Compiled) (s : Str) :
    verdict cs s = match cs.reverse.find? (·.hits s) with
      | some (.pat excl _ _) => excl
      | _ => false := by
  rw [verdict_eq_foldl, ← List.foldr_reverse, foldr_vstep_first]
  rfl

/-- without negations the verdict is the disjunction of the patterns -/
theorem C15G_union (cs : List Compiled) (hpos : ∀ c ∈ cs, ∀ e a re, c = .pat e a re → e = true) (s : Str) :
    verdict cs s = cs.any (·.hits s) := by
  simpa [verdict_eq_foldl] using foldl_vstep_pos s cs hpos false

/-- … hence independent of the order of the patterns and of how they are spread over sources -/
theorem C15G_union_perm (cs cs' : List Compiled) (hperm : cs.Perm cs')
    (hpos : ∀ c ∈ cs, ∀ e a re, c = .pat e a re → e = true) (s : Str) : verdict cs s = verdict cs' s := by
  rw [C15G_union cs hpos s, C15G_union cs' (fun c hc => hpos c (hperm.mem_iff.2 hc)) s]
  exact hperm.any_eq

/-- … and adding patterns never un-excludes a path -/
theorem C15G_append_mono (cs ds : List Compiled) (hpos : ∀ c ∈ ds, ∀ e a re, c = .pat e a re → e = true) (s : Str)
    (h : verdict cs s = true) : verdict (cs ++ ds) s = true := by
  rw [verdict_append, foldl_vstep_pos s ds hpos, h]; rfl

/-- the pattern list of a run is compiled pattern by pattern -/
theorem C15G_compileAll_append (ps qs : List Str) (cs ds : List Compiled) (h1 : compileAll ps = .ok cs)
    (h2 : compileAll qs = .ok ds) : compileAll (ps ++ qs) = .ok (cs ++ ds) := by
  rw [compileAll_eq_mapM] at *
  rw [List.mapM_append, h1, h2]
  rfl

/-- the string CMinx builds for an entry, normalised, is the `pstr` of the components of the absolute input
    directory followed by the relative ones -/
theorem C15G_queryPath (abs rel : List Str) (habs : abs ≠ []) (isDir : Bool) :
    normalizeFile (queryPath ('/' :: joinWith ['/'] abs) rel isDir) = pstr (abs ++ rel) isDir := by
  unfold queryPath pstr
  cases rel with
  | nil => simp [normalizeFile]
  | cons r rel =>
    rw [joinWith_cons_ne _ _ _ (by simp), joinWith_append _ _ _ habs (by simp)]
    simp [normalizeFile]

theorem bare_compileAll (ns : List Str) (hpl : ∀ n ∈ ns, Plain n) :
    ∃ cs, compileAll ns = .ok cs ∧ (∀ c ∈ cs, ∀ e a re, c = .pat e a re → e = true) ∧
      ∀ (path : List Str) (_ : PathOk path) (d : Bool),
        cs.any (·.hits (pstr path d)) = ns.any (fun n => decide (n ∈ path)) := by
  induction ns with
  | nil => exact ⟨[], rfl, by simp, by simp⟩
  | cons n ns ih =>
    obtain ⟨cs, h1, h2, h3⟩ := ih (fun m hm => hpl m (List.mem_cons_of_mem _ hm))
    have hn := hpl n List.mem_cons_self
    obtain ⟨re, hre, hh⟩ := hn.hits
    refine ⟨.pat true true re :: cs, by simp [compileAll, hre, h1, Except.map], ?_, ?_⟩
    · intro c hc e a re he
      rcases List.mem_cons.1 hc with rfl | hc
      · cases he; rfl
      · exact h2 c hc e a re he
    · intro path hp d
      rw [List.any_cons, List.any_cons, hh path hp d, h3 path hp d]

/-- `compileAll` is a function: what holds of the list `bare_compileAll` provides holds of the compiled list at hand -/
theorem exclOf_bare_eq (ns : List Str) (hpl : ∀ n ∈ ns, Plain n) (abs rel : List Str) (hp : PathOk (abs ++ rel))
    (habs : abs ≠ []) (cs : List Compiled) (hc : compileAll ns = .ok cs) (isDir : Bool) :
    exclOf cs ('/' :: joinWith ['/'] abs) rel isDir = ns.any (fun n => decide (n ∈ abs ++ rel)) := by
  obtain ⟨cs', h1, h2, h3⟩ := bare_compileAll ns hpl
  rw [hc] at h1
  cases h1
  unfold exclOf
  rw [C15G_queryPath abs rel habs isDir, C15G_union cs h2, h3 _ hp isDir]

/-- bare-name patterns: an entry of the walk is excluded iff one of the names is a component of its absolute path -/
theorem C15G_exclOf_bare (ns : List Str) (hpl : ∀ n ∈ ns, Plain n) (abs rel : List Str) (hp : PathOk (abs ++ rel))
    (habs : abs ≠ []) (isDir : Bool) :
    ∃ cs, compileAll ns = .ok cs ∧
      exclOf cs ('/' :: joinWith ['/'] abs) rel isDir = ns.any (fun n => decide (n ∈ abs ++ rel)) := by
  obtain ⟨cs, h1, -⟩ := bare_compileAll ns hpl
  exact ⟨cs, h1, exclOf_bare_eq ns hpl abs rel hp habs cs h1 isDir⟩

/-- known finding K7, as a theorem about the model: a bare name that also names a directory *above* the input
    excludes every entry of the walk, the input directory included -/
theorem C15G_K7_above_input (ns : List Str) (hpl : ∀ n ∈ ns, Plain n) (abs : List Str) (n : Str) (hn : n ∈ ns)
    (hab : n ∈ abs) (rel : List Str) (hp : PathOk (abs ++ rel)) (isDir : Bool) :
    ∃ cs, compileAll ns = .ok cs ∧ exclOf cs ('/' :: joinWith ['/'] abs) rel isDir = true := by
  obtain ⟨cs, h1, h2⟩ := C15G_exclOf_bare ns hpl abs rel hp (List.ne_nil_of_mem hab) isDir
  refine ⟨cs, h1, ?_⟩
  rw [h2, List.any_eq_true]
  exact ⟨n, hn, by simp [hab]⟩

/-! ## non-vacuity: the hypotheses are met, and the model evaluated by the kernel on concrete patterns -/

example : Plain (lit "build") ∧ PathOk [lit "home", lit "u", lit "proj", lit "build", lit "x.cmake"] := by
  rw [lit_ofList, lit_ofList, lit_ofList, lit_ofList, lit_ofList]
  decide

example : matchFile [lit "build/", lit "!keep.cmake", lit "*.in.cmake"] (lit "/home/u/proj/build/") = .ok true := by
  rw [lit_ofList, lit_ofList, lit_ofList, lit_ofList]
  decide +kernel
example : matchFile [lit "build/"] (lit "/home/u/proj/build") = .ok false := by
  rw [lit_ofList, lit_ofList]
  decide +kernel
example : matchFile [lit "*.in.cmake"] (lit "/home/u/proj/a.in.cmake") = .ok true := by
  rw [lit_ofList, lit_ofList]
  decide +kernel
example : matchFile [lit "a/**/b"] (lit "/a/x/y/b/") = .ok true := by
  rw [lit_ofList, lit_ofList]
  decide +kernel
example : matchFile [lit "x", lit "!x"] (lit "/p/x") = .ok false := by
  rw [lit_ofList, lit_ofList, lit_ofList]
  decide +kernel
example : matchFile [lit "a\\"] (lit "/a") = .error .invalid := by decide +kernel
example : matchFile [lit "a[bc]"] (lit "/ab") = .error .unsupported := by decide +kernel

theorem segGlob_ok_of_check (g : Str) (h : (match segGlob g with | .ok _ => true | .error _ => false) = true) :
    ∃ re, segGlob g = .ok re := by
  cases hs : segGlob g with
  | ok re => exact ⟨re, rfl⟩
  | error e => rw [hs] at h; cases h

example : OneSeg (lit "*.cmake") ∧ OneSeg (lit "mod?le-*") := by
  rw [lit_ofList, lit_ofList]
  exact ⟨⟨by decide, by decide, segGlob_ok_of_check _ (by decide +kernel), by decide, by decide, by decide, by decide, by decide⟩,
   ⟨by decide, by decide, segGlob_ok_of_check _ (by decide +kernel), by decide, by decide, by decide, by decide, by decide⟩⟩
example : (match compile (lit "*.cmake") with
    | .ok c => c.hits (pstr [lit "p", lit "a.cmake"] false) && !c.hits (pstr [lit "p", lit "a.txt"] false)
    | .error _ => false) = true := by decide +kernel

end Glob
end Cminx
