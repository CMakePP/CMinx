import CminxLemmas.WalkLemmas
/-!
# C13 — directory mode writes exactly one page per processed file, plus one index per processed directory

Model: `walkDir` in `CminxModel/Walk.lean`.  Spec side (`WalkSpec.lean`): `layoutOf` (everything generated, in
order), `pagesOf` / `indexesOf` (its page resp. index items), `Processed` (C13's inductive wording) and `Guard`
(C13's quantifier guard).
-/
namespace Cminx

/-- everything generated for a directory: its own index and pages (unless auto-excluded), then — with `-r` —
    everything generated for its surviving sub-directories, in listing order -/
theorem C13_layoutOf_eq (c : WalkCfg) (excl : List Str → Bool → Bool) (rel : List Str) (listing : List FsNode) :
    layoutOf c excl rel listing =
      (if c.autoExclude && !hasCMake excl rel listing then []
       else .index rel (sortStrs (survivingDirs c excl rel listing)) (sortStrs (keptFiles excl rel listing))
            :: dirPages rel listing (sortStrs (keptFiles excl rel listing))) ++
      (if c.recursive then
        ((survivingNodes c excl rel listing).map (fun p => layoutOf c excl (rel ++ [p.1]) p.2)).flatten
       else []) := by
  rw [layoutOf, subsLayout_eq_flatten]; rfl

/-- the processed CMake files: nothing for a directory that auto-exclusion skips, else its non-excluded files
    sorted by name and filtered by the case-insensitive `.cmake` test, each with its content; then — with `-r` —
    those of the surviving sub-directories in listing order -/
theorem C13_pagesOf_eq (c : WalkCfg) (excl : List Str → Bool → Bool) (rel : List Str) (listing : List FsNode) :
    pagesOf c excl rel listing =
      (if c.autoExclude && !hasCMake excl rel listing then []
       else ((sortStrs (keptFiles excl rel listing)).filter isCMakeName).filterMap
          (fun f => (findFile f listing).map (fun ct => (rel, f, ct)))) ++
      (if c.recursive then
        ((survivingNodes c excl rel listing).map (fun p => pagesOf c excl (rel ++ [p.1]) p.2)).flatten
       else []) := by
  rw [pagesOf, layoutOf, List.filterMap_append, dirItems_pages, subsLayout_eq_flatten]
  congr 1
  split
  · rw [List.filterMap_flatten, List.map_map]; rfl
  · rfl

/-- the directories that get an index: the directory itself unless auto-exclusion skips it, then — with `-r` —
    those among its surviving sub-directories, in listing order -/
theorem C13_indexesOf_eq (c : WalkCfg) (excl : List Str → Bool → Bool) (rel : List Str) (listing : List FsNode) :
    indexesOf c excl rel listing =
      (if c.autoExclude && !hasCMake excl rel listing then []
       else [(rel, sortStrs (survivingDirs c excl rel listing), sortStrs (keptFiles excl rel listing))]) ++
      (if c.recursive then
        ((survivingNodes c excl rel listing).map (fun p => indexesOf c excl (rel ++ [p.1]) p.2)).flatten
       else []) := by
  rw [indexesOf, layoutOf, List.filterMap_append, dirItems_indexes, subsLayout_eq_flatten]
  congr 1
  split
  · rw [List.filterMap_flatten, List.map_map]; rfl
  · rfl

/-- File mode, error-free: the run adds writes at exactly the paths of the layout, in layout order; up to order
    these are one `index.rst` per processed directory and one `<stem>.rst` per processed CMake file. -/
theorem C13_writes {c : WalkCfg} {excl : List Str → Bool → Bool} {pfx : Str} {rel : List Str}
    {listing : List FsNode} {r : RunResult}
    (hf : c.toStdout = false) (htree : treeOk listing = true) (hr : r.error = none) (hh : c.headers ≠ [])
    (hp : ∀ p ∈ pagesOf c excl rel listing, (page c (some pfx) (relPath p) p.2.2).isOk = true) :
    (walkDir c excl pfx rel listing r).writes.map (·.path) =
        r.writes.map (·.path) ++ (layoutOf c excl rel listing).map WItem.path ∧
      ((layoutOf c excl rel listing).map WItem.path).Perm
        ((indexesOf c excl rel listing).map indexPath ++ (pagesOf c excl rel listing).map pagePath) := by
  rw [walkDir_file_ok hf htree hr hh hp, List.map_append, List.map_map]
  exact ⟨rfl, layout_paths_perm _⟩

/-- Under the guard, a directory gets an index iff it is processed in the sense of the statement; its index is
    built from its sorted surviving sub-directories and its sorted non-excluded files. -/
theorem C13_processed_dirs {c : WalkCfg} {excl : List Str → Bool → Bool} {rel : List Str}
    {listing : List FsNode} (hg : Guard c excl rel listing) (d : List Str × List Str × List Str) :
    d ∈ indexesOf c excl rel listing ↔
      ∃ l', Processed c excl rel listing d.1 l' ∧ d.2.1 = sortStrs (survivingDirs c excl d.1 l') ∧
        d.2.2 = sortStrs (keptFiles excl d.1 l') := by
  simp only [mem_indexesOf, mem_layoutOf_iff_processed, mem_dirItems, WItem.index.injEq, reduceCtorEq, false_and,
    exists_false, or_false]
  exact ⟨fun ⟨_, l', hp, _, h1, h2, h3⟩ => ⟨l', h1 ▸ hp, h1 ▸ h2, h1 ▸ h3⟩,
    fun ⟨l', hp, h2, h3⟩ => ⟨_, l', hp, hp.guard hg, rfl, h2, h3⟩⟩

theorem Processed.index_mem {c : WalkCfg} {excl : List Str → Bool → Bool} {rel rel' : List Str}
    {listing l' : List FsNode} (hp : Processed c excl rel listing rel' l') (hg : Guard c excl rel listing) :
    (rel', sortStrs (survivingDirs c excl rel' l'), sortStrs (keptFiles excl rel' l')) ∈ indexesOf c excl rel listing :=
  (C13_processed_dirs hg _).2 ⟨l', hp, rfl, rfl⟩

/-- Under the guard, a page is generated for exactly the files `f` with content `ct` such that `f` is a
    non-excluded regular file of a processed directory whose name ends in `.cmake` case-insensitively. -/
theorem C13_processed_files {c : WalkCfg} {excl : List Str → Bool → Bool} {rel : List Str}
    {listing : List FsNode} (hg : Guard c excl rel listing) (p : List Str × Str × Str) :
    p ∈ pagesOf c excl rel listing ↔
      ∃ l', Processed c excl rel listing p.1 l' ∧ p.2.1 ∈ keptFiles excl p.1 l' ∧ isCMakeName p.2.1 = true ∧
        findFile p.2.1 l' = some p.2.2 := by
  simp only [mem_pagesOf, mem_layoutOf_iff_processed, mem_dirItems, WItem.page.injEq, reduceCtorEq, false_or]
  exact ⟨fun ⟨_, l', hp, _, _, _, ⟨h1, rfl, rfl⟩, h⟩ => ⟨l', h1 ▸ hp, h1 ▸ h⟩,
    fun ⟨l', hp, h⟩ => ⟨_, l', hp, hp.guard hg, _, _, ⟨rfl, rfl, rfl⟩, h⟩⟩

/-- the guard says the input directory itself is processed and gets its index -/
theorem C13_guard_root {c : WalkCfg} {excl : List Str → Bool → Bool} {rel : List Str}
    {listing : List FsNode} (hg : Guard c excl rel listing) :
    (rel, sortStrs (survivingDirs c excl rel listing), sortStrs (keptFiles excl rel listing)) ∈
      indexesOf c excl rel listing :=
  Processed.root.index_mem hg

/-- Whatever happens (errors, either mode), every write is the write of an item of the layout: at that item's path
    and with that item's text. -/
theorem C13_only_layout {c : WalkCfg} {excl : List Str → Bool → Bool} {pfx : Str} {rel : List Str}
    {listing : List FsNode} {r : RunResult} (htree : treeOk listing = true) {w : Write}
    (hw : w ∈ (walkDir c excl pfx rel listing r).writes) :
    w ∈ r.writes ∨ ∃ it ∈ layoutOf c excl rel listing, w.path = it.path ∧ it.text c pfx = .ok w.content := by
  rw [walkDir_eq_layout htree] at hw
  exact runItems_writes_mem hw

/-- Without `-r` only the input directory is processed: every new write lies directly in it. -/
theorem C13_no_descend_without_r {c : WalkCfg} {excl : List Str → Bool → Bool} {pfx : Str} {rel : List Str}
    {listing : List FsNode} {r : RunResult} (hrec : c.recursive = false) {w : Write}
    (hw : w ∈ (walkDir c excl pfx rel listing r).writes) :
    w ∈ r.writes ∨ (w.path.length = rel.length + 1 ∧ w.path.take rel.length = rel) := by
  rw [walkDir_eq, layoutK, hrec, if_neg Bool.false_ne_true, List.append_nil] at hw
  refine (runItems_writes_mem hw).imp_right fun ⟨it, hit, hpath, _⟩ => ?_
  obtain ⟨x, hx⟩ := dirItemsWith_path hit
  simp [hpath, hx]

/-- … and without `-r` the layout is just the input directory's own index and pages -/
theorem C13_layout_without_r {c : WalkCfg} (hrec : c.recursive = false) (excl : List Str → Bool → Bool)
    (rel : List Str) (listing : List FsNode) : layoutOf c excl rel listing = dirItems c excl rel listing := by
  simp [layoutOf, hrec]

/-- **Distinct output paths — under an explicit hypothesis.**  In general two items can share an output path
    (`a.cmake`/`a.CMake` → `a.rst`; `index.cmake` → `index.rst`, see the examples at the end: known finding K4).
    On a tree with distinct sub-directory names and with `NoStemClash` (in every processed directory the stems of
    the non-excluded CMake files are pairwise distinct and none is `index`) all generated paths are distinct, so
    "exactly one `.rst` per processed file" also holds at the level of files on disk. -/
theorem C13_paths_nodup {c : WalkCfg} {excl : List Str → Bool → Bool} {rel : List Str}
    {listing : List FsNode} (htree : treeOk listing = true) (hns : NoStemClash c excl rel listing) :
    ((layoutOf c excl rel listing).map WItem.path).Nodup ∧
      ((indexesOf c excl rel listing).map indexPath ++ (pagesOf c excl rel listing).map pagePath).Nodup := by
  have h := layoutOf_paths_nodup listing rel htree hns
  exact ⟨h, (layout_paths_perm _).nodup_iff.1 h⟩

/-- a checkable form of `NoStemClash`: look at the file lists of the generated indexes -/
theorem noStemClash_of_indexes {c : WalkCfg} {excl : List Str → Bool → Bool} {rel : List Str} {l : List FsNode}
    (hg : Guard c excl rel l)
    (h : ∀ d ∈ indexesOf c excl rel l, ((d.2.2.filter isCMakeName).map stem).Nodup ∧
      lit "index" ∉ (d.2.2.filter isCMakeName).map stem) : NoStemClash c excl rel l := by
  intro rel' l' hp
  have hperm := ((sortStrs_perm (keptFiles excl rel' l')).filter isCMakeName).map stem
  have := h _ (hp.index_mem hg)
  exact ⟨hperm.nodup_iff.1 this.1, fun hm => this.2 (hperm.mem_iff.2 hm)⟩

/-- a page is the pipeline applied to the file's content with the two path-derived names -/
theorem C13_page_eq (c : WalkCfg) (pfx : Option Str) (relFile content : Str) :
    page c pfx relFile content =
      pipeline c.agg c.headers (pageNames c pfx relFile).1 (pageNames c pfx relFile).2 content := rfl

/-- the pipeline reads the source into a list of documented entries that does not depend on the two names, and
    renders that list under them -/
theorem C13_content_factor (cfg : Cfg) (hc : Str) (hs : List Str) (title modName src : Str) :
    pipeline cfg (hc :: hs) title modName src =
      match documentedOf cfg src with
      | .error e => .error e
      | .ok docs => .ok (processDocs hc title modName docs).render := rfl

theorem pipeline_eq_ok {cfg : Cfg} {hc : Str} {hs : List Str} {title modName src text : Str} :
    pipeline cfg (hc :: hs) title modName src = .ok text ↔
      ∃ docs, documentedOf cfg src = .ok docs ∧ (processDocs hc title modName docs).render = text := by
  rw [C13_content_factor]
  cases documentedOf cfg src <;> simp

/-- File mode, error-free: for every processed file the run writes, at `<dir>/<stem>.rst`, the text
    `pipeline c.agg c.headers title module content` where `(title, module) = pageNames c (some pfx) <relative path>`:
    a function of the file's content, its relative path, the prefix and the settings only. -/
theorem C13_content {c : WalkCfg} {excl : List Str → Bool → Bool} {pfx : Str} {rel : List Str}
    {listing : List FsNode} {r : RunResult}
    (hf : c.toStdout = false) (htree : treeOk listing = true) (hr : r.error = none) (hh : c.headers ≠ [])
    (hp : ∀ p ∈ pagesOf c excl rel listing, (page c (some pfx) (relPath p) p.2.2).isOk = true)
    {p : List Str × Str × Str} (hmem : p ∈ pagesOf c excl rel listing) :
    ∃ text,
      pipeline c.agg c.headers (pageNames c (some pfx) (relPath p)).1 (pageNames c (some pfx) (relPath p)).2 p.2.2
        = .ok text ∧
      (⟨p.1 ++ [stem p.2.1 ++ lit ".rst"], text⟩ : Write) ∈ (walkDir c excl pfx rel listing r).writes := by
  refine ⟨pageText c pfx p, isOk_iff.1 (hp p hmem), ?_⟩
  rw [walkDir_file_ok hf htree hr hh hp]
  exact List.mem_append_right _ (List.mem_map.2 ⟨.page p.1 p.2.1 p.2.2, mem_pagesOf.1 hmem, rfl⟩)

/-- the lone-file run: one write `<stem>.rst` whose text is the pipeline under the names derived from the base
    name and the configured prefix -/
theorem C13_lone_file {c : WalkCfg} (hf : c.toStdout = false) (excl : List Str → Bool → Bool) (name content : Str)
    (r : RunResult) (hr : r.error = none) {text : Str}
    (hp : pipeline c.agg c.headers (pageNames c c.pfx name).1 (pageNames c c.pfx name).2 content = .ok text) :
    (document c excl false (.file name content) r).1 =
      { writes := r.writes ++ [⟨[stem name ++ lit ".rst"], text⟩], stdout := r.stdout, error := none } := by
  have : page c c.pfx name content = .ok text := hp
  simp [document, emitPage, hr, this, hf]

/-- The page written for a file in directory mode and the page written for the same file as a lone input are
    renderings of one and the same list of documented entries; they differ only in the (title, module) pair. -/
theorem C13_content_vs_lone {c : WalkCfg} {excl excl' : List Str → Bool → Bool} {pfx : Str} {rel : List Str}
    {listing : List FsNode} {r : RunResult}
    (hf : c.toStdout = false) (htree : treeOk listing = true) (hr : r.error = none) (hh : c.headers ≠ [])
    (hp : ∀ p ∈ pagesOf c excl rel listing, (page c (some pfx) (relPath p) p.2.2).isOk = true)
    {p : List Str × Str × Str} (hmem : p ∈ pagesOf c excl rel listing) :
    ∃ hc hs docs, c.headers = hc :: hs ∧ documentedOf c.agg p.2.2 = .ok docs ∧
      (⟨pagePath p, (processDocs hc (pageNames c (some pfx) (relPath p)).1
          (pageNames c (some pfx) (relPath p)).2 docs).render⟩ : Write) ∈ (walkDir c excl pfx rel listing r).writes ∧
      (document c excl' false (.file p.2.1 p.2.2) {}).1.writes =
        [⟨[stem p.2.1 ++ lit ".rst"], (processDocs hc (pageNames c c.pfx p.2.1).1
          (pageNames c c.pfx p.2.1).2 docs).render⟩] := by
  obtain ⟨text, ht, hw⟩ := C13_content hf htree hr hh hp hmem
  obtain ⟨hc, hs, hhs⟩ := List.exists_cons_of_ne_nil hh
  rw [hhs] at ht
  obtain ⟨docs, hd, rfl⟩ := pipeline_eq_ok.1 ht
  refine ⟨hc, hs, docs, hhs, hd, hw, ?_⟩
  rw [C13_lone_file hf excl' _ _ {} rfl (hhs ▸ pipeline_eq_ok.2 ⟨docs, hd, rfl⟩)]
  rfl

/-- once an error is recorded, nothing further is done -/
theorem C13_error_sticky {c : WalkCfg} {r : RunResult} (h : r.error.isSome = true) :
    (∀ excl pfx rel listing, walkDir c excl pfx rel listing r = r) ∧
    (∀ pfx rel name content, emitPage c pfx rel name content r = r) ∧
    (∀ excl exclRoot inp, (document c excl exclRoot inp r).1 = r) ∧
    (∀ is, (runMain c is r).1 = r ∧ ∃ e, (runMain c is r).2 = .raised e) := by
  refine ⟨fun _ _ _ _ => walkDir_of_error h, fun _ _ _ _ => emitPage_of_error h,
    fun _ _ _ => document_of_error h, fun is => ?_⟩
  cases he : r.error with
  | none => simp [he] at h
  | some e => simp [runMain_of_error he]

/-- **Processing stops at the first error.**  If `it` is the first item of the layout whose generation fails
    (with `e`) — in stdout mode indexes are not generated and cannot fail — the run ends with `error = some e`,
    having written (resp. printed) exactly the items before `it` and nothing after. -/
theorem C13_error_stops {c : WalkCfg} {excl : List Str → Bool → Bool} {pfx : Str} {rel : List Str}
    {listing : List FsNode} {r : RunResult} {pre post : List WItem} {it : WItem} {e : Err}
    (htree : treeOk listing = true) (hr : r.error = none)
    (hsplit : layoutOf c excl rel listing = pre ++ it :: post)
    (hpre : ∀ x ∈ pre, (c.toStdout = false ∨ x.isPage = true) → (x.text c pfx).isOk = true)
    (hact : c.toStdout = false ∨ it.isPage = true) (he : it.text c pfx = .error e) :
    walkDir c excl pfx rel listing r =
      { writes := r.writes ++ (if c.toStdout then [] else pre.map (WItem.write c pfx)),
        stdout := r.stdout ++ (if c.toStdout then
          ((pre.filterMap WItem.page?).map (fun p => pageText c pfx p ++ ['\n', '\n'])).flatten else []),
        error := some e } := by
  rw [walkDir_eq_layout htree, hsplit,
    runItems_err hr (fun x hx ha => hpre x hx (WItem.active_iff.1 ha)) (WItem.active_iff.2 hact) he, ranOk, printed_flatten]

/-! ## Non-vacuity: the example tree of `WalkSpec.lean`, and an input with a syntax error -/

set_option maxRecDepth 8192 in
example : (walkDir exCfg exExcl (lit "P") [] exTree {}).writes.map (·.path) =
    [[lit "index.rst"], [lit "A.rst"], [lit "b.rst"], [lit "sub", lit "index.rst"], [lit "sub", lit "c.rst"],
     [lit "sub", lit "deep", lit "index.rst"], [lit "sub", lit "deep", lit "d.rst"]] := by
  rw [(C13_writes (c := exCfg) rfl ex_treeOk rfl (by decide) ex_ok).1, ex_layout, ex_paths]
  rfl

-- `sub/deep` is processed; `hidden` (excluded), `upper` (only `U.CMAKE`: the scan is case-sensitive) and
-- `sub/nocmake` are not
example : ∃ l', Processed exCfg exExcl [] exTree [lit "sub", lit "deep"] l' := by
  obtain ⟨l', h, _⟩ := (C13_processed_dirs ex_guard ([lit "sub", lit "deep"], [], [lit "d.cmake"])).1
    (by rw [ex_indexes]; exact .tail _ (.tail _ (.head _)))
  exact ⟨l', h⟩
example : ([lit "sub", lit "deep"], [], [lit "d.cmake"]) ∈ indexesOf exCfg exExcl [] exTree := by
  rw [ex_indexes]; exact .tail _ (.tail _ (.head _))
example : ∀ d ∈ indexesOf exCfg exExcl [] exTree,
    d.1 ≠ [lit "hidden"] ∧ d.1 ≠ [lit "upper"] ∧ d.1 ≠ [lit "sub", lit "nocmake"] := by
  rw [ex_indexes]; simp
-- the mixed-case `A.CMake` is a page, `readme.txt` and the excluded `skip.cmake` are not
example : ([], lit "A.CMake", []) ∈ pagesOf exCfg exExcl [] exTree := by rw [ex_pages]; exact .head _
example : ∀ p ∈ pagesOf exCfg exExcl [] exTree, p.2.1 ≠ lit "readme.txt" ∧ p.2.1 ≠ lit "skip.cmake" := by
  rw [ex_pages]; simp
example : ∃ l', Processed exCfg exExcl [] exTree [] l' ∧ lit "A.CMake" ∈ keptFiles exExcl [] l' ∧
    isCMakeName (lit "A.CMake") = true ∧ findFile (lit "A.CMake") l' = some [] :=
  (C13_processed_files ex_guard ([], lit "A.CMake", [])).1 (by rw [ex_pages]; exact .head _)

set_option maxRecDepth 8192 in
example : (⟨[lit "b.rst"], lit "\n###\nP.b\n###\n\n.. module:: P.b\n\n\n.. function:: f()\n\n   doc\n   \n\n"⟩ : Write) ∈
    (walkDir exCfg exExcl (lit "P") [] exTree {}).writes := by
  obtain ⟨text, ht, hw⟩ := C13_content (c := exCfg) (pfx := lit "P") (r := {}) rfl ex_treeOk rfl (by decide) ex_ok
    (p := exB) (by rw [ex_pages]; exact .tail _ (.head _))
  rw [← ex_write_b]
  -- `text` is replaced by a transport term: `rw … at hw` with the same equation costs two thirds more to check
  exact Eq.mp (congrArg (· ∈ _) (congrArg (Write.mk _) (congrArg okText ht)).symm) hw

example : ∀ w ∈ (walkDir exCfgFlat exExcl (lit "P") [] exTree {}).writes, w.path.length = 1 := by
  intro w hw
  rcases C13_no_descend_without_r (c := exCfgFlat) rfl hw with h | h
  · simp at h
  · simpa using h.1

-- the run stops at `bad.cmake`: `index.rst` and `a.rst` are written, `z.rst` is not, the error is recorded
set_option maxRecDepth 8192 in
example : walkDir {} (fun _ _ => false) (lit "P") [] exErrTree {} =
    { writes := [⟨[lit "index.rst"], lit "\n#\nP\n#\n\n.. toctree:: \n   :maxdepth: 2\n\n   a\n   bad\n   z\n\n"⟩,
                 ⟨[lit "a.rst"], lit "\n###\nP.a\n###\n\n.. module:: P.a\n\n"⟩],
      stdout := [], error := some .parse } := by
  have hl : layoutOf {} (fun _ _ => false) [] exErrTree =
      [.index [] [] [lit "a.cmake", lit "bad.cmake", lit "z.cmake"], .page [] (lit "a.cmake") []] ++
        .page [] (lit "bad.cmake") (lit "set(") :: [.page [] (lit "z.cmake") []] := by
    simp only [layoutOf, dirItems, sortStrs_eq_isort]
    decide +kernel
  rw [C13_error_stops (c := {}) (e := .parse) (by decide) rfl hl (by decide +kernel) (Or.inl rfl)
    (eq_error_of_errOf (by decide +kernel))]
  -- the four literals of the expected result are turned into characters, so that the kernel does not decode them
  conv => rhs; rw [lit_ofList, lit_ofList, lit_ofList, lit_ofList]
  apply RunResult.ext'
  · decide +kernel
  · rfl
  · rfl

theorem ex_noStemClash : NoStemClash exCfg exExcl [] exTree :=
  noStemClash_of_indexes ex_guard (by rw [ex_indexes]; decide +kernel)

example : ((layoutOf exCfg exExcl [] exTree).map WItem.path).Nodup :=
  (C13_paths_nodup ex_treeOk ex_noStemClash).1

-- the guard is needed: with auto-exclusion on and `-r`, a top directory without `.cmake` file is walked through
-- but not processed — its sub-directory gets an index, it does not (so `C13_processed_dirs` fails for `[]`)
example : indexesOf exCfg (fun _ _ => false) [] [.file (lit "readme.txt") [], .dir (lit "s") [.file (lit "x.cmake") []]] =
    [([lit "s"], [], [lit "x.cmake"])] := by
  simp only [indexesOf, layoutOf, dirItems, sortStrs_eq_isort]
  decide +kernel

/-! ### the known output-path collisions (finding K4): without `NoStemClash` the written paths need not be distinct

`a.cmake` and `a.CMake` both map to `a.rst`; `index.cmake` maps to `index.rst`, the path of the directory's index. -/

example : ¬ ((layoutOf {} (fun _ _ => false) [] [.file (lit "a.cmake") [], .file (lit "a.CMake") []]).map WItem.path).Nodup := by
  simp only [layoutOf, dirItems, sortStrs_eq_isort]
  decide +kernel
example : ¬ ((layoutOf {} (fun _ _ => false) [] [.file (lit "index.cmake") []]).map WItem.path).Nodup := by
  simp only [layoutOf, dirItems, sortStrs_eq_isort]
  decide +kernel

end Cminx
