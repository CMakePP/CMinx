import CminxLemmas.SpecLemmas
/-!
# C10 — variable and option entries state type, default and help correctly

Read off the structural specification (`Item.spec`, `CminxModel/Spec.lean`), which `T_agg` (`CminxProps/TAgg.lean`)
proves to be what the listener state machine computes; the rendering half is read off `Entry.toElem`
(`CminxModel/DocTypes.lean`, the model of `VariableDocumentation.process` / `OptionDocumentation.process`).

`call.singles` is the list of the command's direct single arguments, each as its token text (what
`getText()` returns): a quoted argument `"…"` carries its quotes, a bracket argument its brackets.
-/
namespace Cminx

namespace C10

/-- type and default value of a `set()` by the values following the variable name -/
def varOf : List Str → VarType × Option Str
  | [] => (.unset, none)
  | [v] => (.string, some (unquote v))
  | vs => (.list, some (joinWith [' '] vs))

end C10

open C10

/-- A documented `set(name v…)` — in any class context, under any configuration — contributes exactly one
variable entry: named after the first argument, carrying the cleaned doccomment, typed by the number of values. -/
theorem C10_set (cfg : Cfg) (ctx : ClsCtx) (d : DocC) (call : Call) (name : Str) (vals : List Str)
    (hn : call.lname = lit "set") (hs : call.singles = name :: vals) :
    (Item.cmd (some d) call).spec cfg ctx =
      { top := [.var name (cleanDoc d.tokenText) (varOf vals).1 (varOf vals).2] } := by
  rw [spec_cmd_set cfg ctx (some d) call hn]
  match vals, hs with
  | [], hs => simp [hs, varOf, docTextOf]
  | [v], hs => simp [hs, varOf, docTextOf]
  | v :: w :: vs, hs => simp [hs, varOf, docTextOf]

/-- no value: type `UNSET`, no default -/
theorem C10_set_unset (cfg : Cfg) (ctx : ClsCtx) (d : DocC) (call : Call) (name : Str)
    (hn : call.lname = lit "set") (hs : call.singles = [name]) :
    (Item.cmd (some d) call).spec cfg ctx = { top := [.var name (cleanDoc d.tokenText) .unset none] } :=
  C10_set cfg ctx d call name [] hn hs

/-- one value: type `str`, default = the value without a surrounding pair of double quotes -/
theorem C10_set_string (cfg : Cfg) (ctx : ClsCtx) (d : DocC) (call : Call) (name v : Str)
    (hn : call.lname = lit "set") (hs : call.singles = [name, v]) :
    (Item.cmd (some d) call).spec cfg ctx =
      { top := [.var name (cleanDoc d.tokenText) .string (some (unquote v))] } :=
  C10_set cfg ctx d call name [v] hn hs

/-- several values: type `list`, default = the value texts as written joined by single spaces, in order -/
theorem C10_set_list (cfg : Cfg) (ctx : ClsCtx) (d : DocC) (call : Call) (name v w : Str) (vs : List Str)
    (hn : call.lname = lit "set") (hs : call.singles = name :: v :: w :: vs) :
    (Item.cmd (some d) call).spec cfg ctx =
      { top := [.var name (cleanDoc d.tokenText) .list (some (joinWith [' '] (v :: w :: vs)))] } :=
  C10_set cfg ctx d call name (v :: w :: vs) hn hs

/-- a `set()` without a doccomment never yields an entry (there is no `include_undocumented_set`) -/
theorem C10_set_undocumented (cfg : Cfg) (ctx : ClsCtx) (call : Call) (hn : call.lname = lit "set") :
    (Item.cmd none call).spec cfg ctx = {} :=
  spec_cmd_set cfg ctx none call hn

/-- a quoted argument `"s"` loses exactly its surrounding quotes — for every `s`, including the empty string
and contents with embedded `\"` -/
theorem C10_unquote_quoted (s : Str) : unquote (ArgTok.quoted s).text = s := by
  show unquote ('"' :: (s ++ ['"'])) = s
  rw [unquote, if_pos ⟨by simp, by simp, List.getLast?_concat (l := '"' :: s)⟩]
  simp

/-- a token that does not start with `"` (every identifier, variable reference and lexically valid unquoted
argument) is kept as written, even if it ends in `"` (`a\"`) -/
theorem C10_unquote_bare (t : Str) (h : t.head? ≠ some '"') : unquote t = t := by
  simp [unquote, h]

/-- a token that does not end with `"` is kept as written -/
theorem C10_unquote_bare_last (t : Str) (h : t.getLast? ≠ some '"') : unquote t = t := by
  simp [unquote, h]

/-- bracket arguments are kept as written (brackets included) -/
theorem C10_unquote_bracket (lvl : Nat) (s : Str) :
    unquote (ArgTok.bracket lvl s).text = (ArgTok.bracket lvl s).text := by
  apply C10_unquote_bare
  simp [ArgTok.text, bracketOpen]

/-- end to end for `set(name "s")` written with tokens: the default is `s` itself -/
theorem C10_set_quoted_value (cfg : Cfg) (ctx : ClsCtx) (d : DocC) (call : Call) (p0 p1 : Sep) (nameTok : ArgTok)
    (s : Str) (hn : call.lname = lit "set") (ha : call.args = [.tok p0 nameTok, .tok p1 (.quoted s)]) :
    (Item.cmd (some d) call).spec cfg ctx =
      { top := [.var nameTok.text (cleanDoc d.tokenText) .string (some s)] } := by
  have hs : call.singles = [nameTok.text, (ArgTok.quoted s).text] := by
    rw [Call.singles_toks call [(p0, nameTok), (p1, .quoted s)] (by simp [ha])]; rfl
  rw [C10_set_string cfg ctx d call _ _ hn hs, C10_unquote_quoted]

/-- end to end for `set(name v₁ v₂ …)` written with tokens of any form: the default is the token texts as
written (quotes and brackets included), in order, separated by single spaces whatever the source layout -/
theorem C10_set_list_tokens (cfg : Cfg) (ctx : ClsCtx) (d : DocC) (call : Call) (nameTok : Sep × ArgTok)
    (v w : Sep × ArgTok) (vs : List (Sep × ArgTok)) (hn : call.lname = lit "set")
    (ha : call.args = (nameTok :: v :: w :: vs).map (fun p => SArg.tok p.1 p.2)) :
    (Item.cmd (some d) call).spec cfg ctx =
      { top := [.var nameTok.2.text (cleanDoc d.tokenText) .list
          (some (joinWith [' '] ((v :: w :: vs).map (fun p => p.2.text))))] } := by
  have hs := Call.singles_toks call _ ha
  simp only [List.map_cons] at hs
  rw [C10_set_list cfg ctx d call _ _ _ _ hn hs]
  simp

/-- An `option(name help [default])` that is documented, or undocumented with `include_undocumented_option` on,
contributes exactly one option entry with the name, the help text and the default if one is written. -/
theorem C10_option (cfg : Cfg) (ctx : ClsCtx) (doc : Option DocC) (call : Call) (name help : Str)
    (dflt : Option Str) (hn : call.lname = lit "option") (hincl : doc.isSome = true ∨ cfg.inclOption = true)
    (hs : call.singles = name :: help :: dflt.toList) :
    (Item.cmd doc call).spec cfg ctx = { top := [.opt name (docTextOf doc) help dflt] } := by
  rw [spec_cmd_option cfg ctx doc call hn, if_pos hincl, hs]
  cases dflt
  · rfl
  · rfl

/-- under the default configuration every `option()` has an entry -/
theorem C10_option_default (ctx : ClsCtx) (doc : Option DocC) (call : Call) (name help : Str)
    (dflt : Option Str) (hn : call.lname = lit "option") (hs : call.singles = name :: help :: dflt.toList) :
    (Item.cmd doc call).spec {} ctx = { top := [.opt name (docTextOf doc) help dflt] } :=
  C10_option {} ctx doc call name help dflt hn (Or.inr rfl) hs

/-- A variable entry is a `.. data:: name` directive holding the doc paragraph, then the field
`Default value` (the value; `None` for an unset variable), then the field `type`. -/
theorem C10_render_var (name doc : Str) (ty : VarType) (value : Option Str) :
    (Entry.var name doc ty value).toElem =
      .directive (lit "data") [name] []
        [.para doc,
         .field (lit "Default value") (match value with | some v => v | none => lit "None"),
         .field (lit "type") (match ty with | .string => lit "str" | .list => lit "list" | .unset => lit "UNSET")] := by
  cases value <;> rfl

/-- the three shapes a documented `set()` produces -/
theorem C10_render_set (name doc : Str) (vals : List Str) :
    (Entry.var name doc (varOf vals).1 (varOf vals).2).toElem =
      .directive (lit "data") [name] []
        [.para doc,
         .field (lit "Default value")
           (match vals with | [] => lit "None" | [v] => unquote v | vs => joinWith [' '] vs),
         .field (lit "type") (match vals with | [] => lit "UNSET" | [_] => lit "str" | _ => lit "list")] := by
  match vals with
  | [] => rfl
  | [v] => rfl
  | v :: w :: vs => rfl

/-- An option entry is a `.. data:: name` directive holding the note that marks it as a user-editable cache
option, the doc paragraph, then the fields `Help text`, `Default value` (`OFF` when no default is written) and
`type` = `bool`, in this order. -/
theorem C10_render_opt (name doc help : Str) (dflt : Option Str) :
    (Entry.opt name doc help dflt).toElem =
      .directive (lit "data") [name] []
        [.directive (lit "note") [] [] [.para optionNote], .para doc, .field (lit "Help text") help,
         .field (lit "Default value") (match dflt with | some v => v | none => lit "OFF"),
         .field (lit "type") (lit "bool")] := by
  cases dflt <;> rfl

/-! ## non-vacuity -/

/-- `set(MY_VAR "a \"b\"")` with a doccomment, written with a quoted argument -/
def exSetQuoted : Item :=
  .cmd (some (mkDoc "" ["A variable."]))
    { pre := [.nl false], name := lit "SET", sp := 0, close := [],
      args := [.tok [] (.bare (lit "MY_VAR")), .tok [.spaces 2] (.quoted (lit "a \\\"b\\\""))] }

example : exSetQuoted.spec {} .none =
    { top := [.var (lit "MY_VAR") (cleanDoc (mkDoc "" ["A variable."]).tokenText) .string (some (lit "a \\\"b\\\""))] } :=
  C10_set_quoted_value {} .none _ _ [] [.spaces 2] (.bare (lit "MY_VAR")) _ (by decide +kernel) rfl

/-- `set(L a "b c" [[d]])`: three values of three forms -/
def exSetList : Item :=
  .cmd (some (mkDoc "" ["A list."]))
    { pre := [.nl false], name := lit "set", sp := 1, close := [.spaces 1],
      args := [.tok [] (.bare (lit "L")), .tok [.nl false, .tabs 1] (.bare (lit "a")),
               .tok [.spaces 3] (.quoted (lit "b c")), .tok [.spaces 1] (.bracket 0 (lit "d"))] }

example : ∃ doc, exSetList.spec {} .shown =
    { top := [.var (lit "L") doc .list (some (lit "a \"b c\" [[d]]"))] } :=
  ⟨_, C10_set_list_tokens {} .shown _ _ ([], .bare (lit "L")) ([.nl false, .tabs 1], .bare (lit "a"))
    ([.spaces 3], .quoted (lit "b c")) [([.spaces 1], .bracket 0 (lit "d"))] (by decide +kernel) rfl⟩

example : unquote (ArgTok.quoted []).text = [] := C10_unquote_quoted []
example : unquote (lit "a\\\"") = lit "a\\\"" := C10_unquote_bare _ (by decide +kernel)
example : unquote (lit "\"") = lit "\"" := by decide +kernel

/-- an undocumented `option(FLAG "help")` and a documented `OPTION(FLAG "help" ON)` -/
example : (Item.cmd none (mkCall "option" ["FLAG", "\"help\""])).spec {} .none =
    { top := [.opt (lit "FLAG") [] (lit "\"help\"") none] } :=
  C10_option_default .none none _ _ _ none (by decide +kernel) (by decide +kernel)

example : (Item.cmd (some (mkDoc "" ["An option."])) (mkCall "OPTION" ["FLAG", "\"help\"", "ON"])).spec
      { inclOption := false } .none =
    { top := [.opt (lit "FLAG") (docTextOf (some (mkDoc "" ["An option."]))) (lit "\"help\"") (some (lit "ON"))] } :=
  C10_option _ .none _ _ _ _ (some (lit "ON")) (by decide +kernel) (Or.inl rfl) (by decide +kernel)

end Cminx
