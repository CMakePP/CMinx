import CminxLemmas.AggBlock
/-!
# T-aggS — the refinement theorem for declarations that are apart from their definitions

`T_agg` (`CminxProps/TAgg.lean`) knows a member/test declaration only as `Item.decl`: the declaration immediately
followed by its *undocumented* implementing definition.  The listener is more general: the declaration fills the
awaiting slot and the *next* `function`/`macro` command claims it — after any number of ordinary commands, and
whether or not it carries a doccomment of its own.  `T_aggS` is the refinement theorem for that input language:
`itemsWfS` (`CminxModel/SpecSeq.lean`) accepts a declaration as a single command followed by single commands /
dangling doccomments and then the definition, and `itemsSpecS` is the structural specification that looks ahead
for the definition.  `T_agg` is the special case (`itemsWf_imp_itemsWfS`, `itemsSpecS_eq_of_wf`).

The induction (`CminxLemmas/AggBlock.lean`) carries the awaiting slot: between declaration and definition the
state is related to the state in which the definition has already completed the entry; the single commands in
between commute with that completion.
-/
namespace Cminx

/-- The frame form: from every state between two items (stack indices in range, nothing awaiting a definition) the
events of a list of items lead to `post st kw c` — the old entries with the deferred mutations applied, followed by
the new top-level entries.  `p` says whether a declaration without an entry is still waiting for its definition in
front of the list.  The induction (`itemsOKS_all`) proves this also from a state in which an entry awaits its
definition. -/
theorem T_aggS_frame (cfg : Cfg) (items : List Item) (inClass p : Bool) (st : AggState) (hinv : Inv st)
    (hwf : itemsWfS inClass p items = true) (hcls : inClass = true → st.classStack ≠ [])
    (hk1 : cfg.inclCppClass = true ∨ itemsHaveDocumentedClass items = false) :
    (itemsEvents items).foldlM (step cfg) st =
      .ok (post st (itemsCpaDirect items) (itemsSpecS cfg (ctxOf st.classStack) false items)) :=
  (itemsOKS_all cfg items).frame inClass p st hinv hwf hcls hk1

/-- At file level, after any entries stored so far: the new entries are appended and everything else is as at the
start. -/
theorem T_aggS_top (cfg : Cfg) (items : List Item) (docd : List Entry)
    (hwf : itemsWfS false false items = true)
    (hk1 : cfg.inclCppClass = true ∨ itemsHaveDocumentedClass items = false) :
    (itemsEvents items).foldlM (step cfg) { documented := docd } =
      .ok { documented := docd ++ (itemsSpecS cfg .none false items).top } := by
  rw [T_aggS_frame cfg items false false _ ⟨rfl, by simp, by simp⟩ hwf (by simp) hk1]
  simp [post, absorb, ctxOf]

/-- The listener state machine run over the events of a list of items that is well formed in the relaxed sense
(`itemsWfS`: declarations may be apart from their definitions, definitions may be documented) ends without an
exception in the state whose `documented` is the sequence-aware structural specification, with both stacks empty,
nothing awaiting a definition and no logged parameter error.  `hk1` keeps the statement outside defect K1, as
in `T_agg_items`. -/
theorem T_aggS_items (cfg : Cfg) (items : List Item)
    (hwf : itemsWfS false false items = true)
    (hk1 : cfg.inclCppClass = true ∨ itemsHaveDocumentedClass items = false) :
    (itemsEvents items).foldlM (step cfg) ({} : AggState) =
      .ok { documented := (itemsSpecS cfg .none false items).top, classStack := [], awaiting := none, defStack := [],
            errors := 0 } := by
  simpa using T_aggS_top cfg items [] hwf hk1

/-- `T_agg` for the relaxed input language: `aggregate` over the events of a module whose items satisfy `itemsWfS`
succeeds, `documented` equals `Module.entriesS`, no parameter error was logged, both stacks are empty and nothing
awaits a definition. -/
theorem T_aggS (cfg : Cfg) (m : Module)
    (hwf : itemsWfS false false m.items = true)
    (hk1 : cfg.inclCppClass = true ∨ itemsHaveDocumentedClass m.items = false) :
    ∃ st, aggregate cfg m.events = .ok st ∧ st.documented = m.entriesS cfg ∧ st.errors = 0 ∧
      st.classStack = [] ∧ st.defStack = [] ∧ st.awaiting = none := by
  unfold aggregate Module.events Module.entriesS
  cases m.modDoc with
  | none => exact ⟨_, T_aggS_top cfg m.items [] hwf hk1, rfl, rfl, rfl, rfl, rfl⟩
  | some d => exact ⟨_, T_aggS_top cfg m.items [_] hwf hk1, rfl, rfl, rfl, rfl, rfl⟩

theorem isDeclName_of_wf (b : Bool) (doc : Option DocC) (call : Call) (h : (Item.cmd doc call).wf b = true) :
    isDeclName call.lname = false := by
  simp only [Item.wf, Bool.and_eq_true, Bool.not_eq_true'] at h
  have hs := (not_mem_structuralNames _).1 (by simpa using h.1.1.1.1.1)
  simp [isDeclName, hs]

mutual
theorem seq_wfimp_item : (it : Item) → ∀ b, it.wf b = true → it.wfS b false = true ∧ it.pendWf false = false
  | .cmd doc call => fun b h => by
    have hd := isDeclName_of_wf b doc call h
    simp only [Item.wfS, Item.pendWf, hd, Bool.false_eq_true, if_false, Bool.or_false, and_true]
    exact h
  | .block doc o body c => fun b h => by
    simp only [Item.wf, Bool.and_eq_true] at h
    simp only [Item.wfS, Item.pendWf, Bool.and_eq_true, Bool.not_false, Bool.or_true, true_and, Bool.if_false_left,
      Bool.and_false, and_true]
    exact ⟨h.1, itemsWf_imp_itemsWfS _ body h.2⟩
  | .decl doc d impl body c => fun b h => by
    simp only [Item.wf, Bool.and_eq_true] at h
    simp only [Item.wfS, Item.pendWf, Bool.and_eq_true, Bool.not_false, true_and, and_true]
    exact ⟨h.1, itemsWf_imp_itemsWfS _ body h.2⟩
  | .dangling _ => fun _ _ => ⟨rfl, rfl⟩
/-- Every module `T_agg` talks about is also one `T_aggS` talks about. -/
theorem itemsWf_imp_itemsWfS (b : Bool) (items : List Item) (h : itemsWf b items = true) :
    itemsWfS b false items = true :=
  match items, h with
  | [], _ => rfl
  | i :: is, h => by
    simp only [itemsWf, Bool.and_eq_true] at h
    have h1 := seq_wfimp_item i b h.1
    have h2 := itemsWf_imp_itemsWfS b is h.2
    simp only [itemsWfS, Bool.and_eq_true, h1.1, h1.2, h2, and_self]
end

mutual
theorem seq_speceq_item (cfg : Cfg) : (it : Item) → ∀ b ctx x, it.wf b = true →
    it.specS cfg ctx false x = it.spec cfg ctx ∧ it.pendS cfg ctx false = false
  | .cmd doc call => fun b ctx x h => by
    simp [Item.specS, Item.pendS, isDeclName_of_wf b doc call h]
  | .block doc o body c => fun b ctx x h => by
    simp only [Item.wf, Bool.and_eq_true] at h
    refine ⟨?_, by simp [Item.pendS]⟩
    simp only [Item.specS, Item.spec, itemsSpecS_eq_of_wf cfg _ _ body h.2, Bool.not_false, Bool.true_and]
  | .decl doc d impl body c => fun b ctx x h => by
    simp only [Item.wf, Bool.and_eq_true] at h
    refine ⟨?_, rfl⟩
    simp only [Item.specS, Item.spec, itemsSpecS_eq_of_wf cfg _ _ body h.2]
  | .dangling _ => fun _ _ _ _ => ⟨rfl, rfl⟩
/-- On the modules `T_agg` talks about the two specifications agree, so `T_agg` is `T_aggS` restricted to them.
(The hypothesis is needed: it excludes a declaration name on an `Item.cmd`, which `Item.spec` reads as a generic
command and `Item.specS` as a declaration.) -/
theorem itemsSpecS_eq_of_wf (cfg : Cfg) (ctx : ClsCtx) (b : Bool) (items : List Item)
    (h : itemsWf b items = true) : itemsSpecS cfg ctx false items = itemsSpec cfg ctx items :=
  match items, h with
  | [], _ => rfl
  | i :: is, h => by
    simp only [itemsWf, Bool.and_eq_true] at h
    have h1 := seq_speceq_item cfg i b ctx (findImpl is) h.1
    have h2 := itemsSpecS_eq_of_wf cfg ctx b is h.2
    simp only [itemsSpecS, itemsSpec, h1.1, h1.2, h2]
end

theorem entriesS_eq_of_wf (cfg : Cfg) (m : Module) (h : itemsWf false m.items = true) :
    m.entriesS cfg = m.entries cfg := by
  unfold Module.entriesS Module.entries
  rw [itemsSpecS_eq_of_wf cfg .none false m.items h]
  cases m.modDoc <;> rfl

theorem T_agg_from_T_aggS (cfg : Cfg) (m : Module)
    (hwf : itemsWf false m.items = true)
    (hk1 : cfg.inclCppClass = true ∨ itemsHaveDocumentedClass m.items = false) :
    ∃ st, aggregate cfg m.events = .ok st ∧ st.documented = m.entries cfg ∧ st.errors = 0 ∧
      st.classStack = [] ∧ st.defStack = [] ∧ st.awaiting = none := by
  rw [← entriesS_eq_of_wf cfg m hwf]
  exact T_aggS cfg m (itemsWf_imp_itemsWfS false m.items hwf) hk1

theorem findImpl_gap (gap rest : List Item) (hg : gap.all Item.isGap = true) :
    findImpl (gap ++ rest) = findImpl rest := by
  induction gap with
  | nil => rfl
  | cons g gap ih =>
    simp only [List.all_cons, Bool.and_eq_true] at hg
    cases g with
    | cmd doc call => simpa [findImpl, Item.implOpener] using ih hg.2
    | dangling d => simpa [findImpl, Item.implOpener] using ih hg.2
    | block doc o body c => simp [Item.isGap] at hg
    | decl doc d i body c => simp [Item.isGap] at hg

theorem itemsSpecS_gap (cfg : Cfg) (ctx : ClsCtx) (p : Bool) (gap rest : List Item)
    (hg : gap.all Item.isGap = true) :
    itemsSpecS cfg ctx p (gap ++ rest) = itemsSpec cfg ctx gap ++ itemsSpecS cfg ctx p rest := by
  induction gap with
  | nil => simp [itemsSpec]
  | cons g gap ih =>
    simp only [List.all_cons, Bool.and_eq_true] at hg
    cases g with
    | cmd doc call =>
      have hd : isDeclName call.lname = false := by simpa [Item.isGap] using hg.1
      simp only [List.cons_append, itemsSpecS, itemsSpec, Item.specS, Item.pendS, hd, Bool.false_eq_true, if_false,
        Bool.false_and, Bool.or_false, ih hg.2, Contrib.append_assoc]
    | dangling d =>
      simp only [List.cons_append, itemsSpecS, itemsSpec, Item.specS, Item.spec, Item.pendS, ih hg.2,
        Contrib.append_assoc]
    | block doc o body c => simp [Item.isGap] at hg
    | decl doc d i body c => simp [Item.isGap] at hg

theorem itemsSpecS_cons_decl {cfg : Cfg} {ctx : ClsCtx} {doc : Option DocC} {d : Call} {is : List Item}
    (hd : isDeclName d.lname = true) :
    itemsSpecS cfg ctx false (.cmd doc d :: is) =
      declContrib cfg ctx doc d (findImpl is) ++ itemsSpecS cfg ctx (declShown cfg ctx doc d) is := by
  simp only [itemsSpecS, Item.specS, Item.pendS, hd, if_true, Bool.false_or, Bool.true_and]

/-- **The commands between a declaration and its definition are irrelevant to the declaration.**  For a
declaration `d` (one of `cpp_member`, `cpp_constructor`, `ct_add_test`, `ct_add_section`) written as a command of
its own, followed by single commands / dangling doccomments `gap` and then by the definition `impl`: the
declaration contributes `declContrib … (some impl)` — its entry completed by `impl`'s parameters and macro-ness —
the gap commands contribute exactly what they contribute anywhere else (`itemsSpec … gap`), and the rest is the
contribution of the definition and what follows.  With an empty gap the declaration's contribution and the rest
are literally the same terms. -/
theorem TAggSeq_gap_irrelevant (cfg : Cfg) (ctx : ClsCtx) (doc : Option DocC) (d : Call) (gap : List Item)
    (implDoc : Option DocC) (impl : Call) (body : List Item) (c : Call) (rest : List Item)
    (hd : isDeclName d.lname = true) (hg : gap.all Item.isGap = true) (hi : isDefName impl.lname = true) :
    itemsSpecS cfg ctx false (.cmd doc d :: (gap ++ .block implDoc impl body c :: rest)) =
      declContrib cfg ctx doc d (some impl) ++
        (itemsSpec cfg ctx gap ++
          itemsSpecS cfg ctx (declShown cfg ctx doc d) (.block implDoc impl body c :: rest)) ∧
    itemsSpecS cfg ctx false (.cmd doc d :: .block implDoc impl body c :: rest) =
      declContrib cfg ctx doc d (some impl) ++
        itemsSpecS cfg ctx (declShown cfg ctx doc d) (.block implDoc impl body c :: rest) := by
  have hf : findImpl (.block implDoc impl body c :: rest) = some impl := by simp [findImpl, Item.implOpener, hi]
  constructor
  · rw [itemsSpecS_cons_decl hd, findImpl_gap _ _ hg, hf, itemsSpecS_gap cfg ctx _ gap _ hg]
  · rw [itemsSpecS_cons_decl hd, hf]

/-- `Item.decl` — the declaration immediately followed by its undocumented definition, the only form `T_agg`
knows — means the same as the declaration command followed by the undocumented definition block. -/
theorem TAggSeq_decl_eq_split (cfg : Cfg) (ctx : ClsCtx) (doc : Option DocC) (d impl : Call) (body : List Item)
    (c : Call) (rest : List Item) (hd : isDeclName d.lname = true) (hi : isDefName impl.lname = true) :
    itemsSpecS cfg ctx false (.decl doc d impl body c :: rest) =
      itemsSpecS cfg ctx false (.cmd doc d :: .block none impl body c :: rest) := by
  rw [(TAggSeq_gap_irrelevant cfg ctx doc d [] none impl body c rest hd rfl hi).2, itemsSpecS, itemsSpecS,
    specS_decl, specS_block_def cfg none impl body c ctx _ _ ((isDefName_iff _).1 hi)]
  cases hs : declShown cfg ctx doc d <;> simp [declContrib, asDefinition, hs, Item.pendS, hi, Contrib.append_assoc]

/-- **A documented implementing definition contributes exactly one entry of its own**, whether or not a
declaration is waiting for it: after the declaration's (completed) contribution and the gap commands comes the
definition's own `function`/`macro` entry, then its body, then the rest — with nothing pending any more. -/
theorem TAggSeq_documented_impl (cfg : Cfg) (ctx : ClsCtx) (doc : Option DocC) (d : Call) (gap : List Item)
    (dc : DocC) (impl : Call) (body : List Item) (c : Call) (rest : List Item)
    (hd : isDeclName d.lname = true) (hg : gap.all Item.isGap = true) (hi : isDefName impl.lname = true) :
    itemsSpecS cfg ctx false (.cmd doc d :: (gap ++ .block (some dc) impl body c :: rest)) =
      declContrib cfg ctx doc d (some impl) ++
        (itemsSpec cfg ctx gap ++
          (({ top := [defEntry cfg (impl.lname = lit "macro") (some dc) impl body] } ++
              itemsSpecS cfg ctx false body) ++
            itemsSpecS cfg ctx false rest)) := by
  rw [(TAggSeq_gap_irrelevant cfg ctx doc d gap (some dc) impl body c rest hd hg hi).1, itemsSpecS,
    specS_block_def cfg (some dc) impl body c ctx _ _ ((isDefName_iff _).1 hi)]
  simp [Item.pendS, hi]

/-- … and the `**kwargs` flag of that entry is determined by the definition's own doccomment (the trigger text)
and its own body (a `cmake_parse_arguments` call directly in it), by nothing else. -/
theorem TAggSeq_documented_impl_kwargs (cfg : Cfg) (isMacro : Bool) (dc : DocC) (impl : Call) (body : List Item) :
    defEntry cfg isMacro (some dc) impl body =
      .func isMacro (impl.singles.headD []) (cleanDoc dc.tokenText)
        ((impl.singles.drop 1).map (if isMacro then cfg.stripMacro else cfg.stripFn))
        (isInfix cfg.trigger (cleanDoc dc.tokenText) || itemsCpaDirect body) := rfl

/-- The listener on such input: whatever precedes (`pre`), a declaration, gap commands and a *documented*
implementing definition, then whatever follows — the run succeeds, `documented` is the specification, and both
stacks are empty at the end: the documented definition pushed exactly one definition-stack entry (its own) and
its `endfunction`/`endmacro` popped it. -/
theorem TAggSeq_documented_impl_stacks (cfg : Cfg) (pre : List Item) (doc : Option DocC) (d : Call)
    (gap : List Item) (dc : DocC) (impl : Call) (body : List Item) (c : Call) (rest : List Item)
    (hwf : itemsWfS false false (pre ++ .cmd doc d :: (gap ++ .block (some dc) impl body c :: rest)) = true)
    (hk1 : cfg.inclCppClass = true ∨
      itemsHaveDocumentedClass (pre ++ .cmd doc d :: (gap ++ .block (some dc) impl body c :: rest)) = false) :
    ∃ st, (itemsEvents (pre ++ .cmd doc d :: (gap ++ .block (some dc) impl body c :: rest))).foldlM (step cfg)
        ({} : AggState) = .ok st ∧
      st.defStack = [] ∧ st.classStack = [] ∧ st.awaiting = none ∧ st.errors = 0 ∧
      st.documented =
        (itemsSpecS cfg .none false (pre ++ .cmd doc d :: (gap ++ .block (some dc) impl body c :: rest))).top :=
  ⟨_, T_aggS_items cfg _ hwf hk1, rfl, rfl, rfl, rfl, rfl⟩

/-- The listener on a split declaration at file level: `documented` is the declaration's completed entry, then
the gap commands' own entries, then what the definition and the rest contribute. -/
theorem TAggSeq_gap_machine (cfg : Cfg) (doc : Option DocC) (d : Call) (gap : List Item)
    (implDoc : Option DocC) (impl : Call) (body : List Item) (c : Call) (rest : List Item)
    (hwf : itemsWfS false false (.cmd doc d :: (gap ++ .block implDoc impl body c :: rest)) = true)
    (hk1 : cfg.inclCppClass = true ∨
      itemsHaveDocumentedClass (.cmd doc d :: (gap ++ .block implDoc impl body c :: rest)) = false)
    (hd : isDeclName d.lname = true) (hg : gap.all Item.isGap = true) (hi : isDefName impl.lname = true) :
    ∃ st, (itemsEvents (.cmd doc d :: (gap ++ .block implDoc impl body c :: rest))).foldlM (step cfg)
        ({} : AggState) = .ok st ∧
      st.documented =
        (declContrib cfg .none doc d (some impl)).top ++
          ((itemsSpec cfg .none gap).top ++
            (itemsSpecS cfg .none (declShown cfg .none doc d) (.block implDoc impl body c :: rest)).top) ∧
      st.defStack = [] ∧ st.classStack = [] ∧ st.awaiting = none ∧ st.errors = 0 := by
  refine ⟨_, T_aggS_items cfg _ hwf hk1, ?_, rfl, rfl, rfl, rfl⟩
  simp only []
  rw [(TAggSeq_gap_irrelevant cfg .none doc d gap implDoc impl body c rest hd hg hi).1]
  simp

/-! ## non-vacuity -/

/-- a command `name(arg …)` with bare arguments, on its own line -/
def mkCallS (name : String) (args : List String) : Call :=
  { pre := [.nl false], name := name.toList, sp := 0,
    args := args.map (fun a => SArg.tok [.spaces 1] (.bare a.toList)), close := [] }

/-- a doccomment with `# `-led body lines -/
def mkDocS (openSuffix : String) (lines : List String) : DocC :=
  { pre := [.nl false], ind := [], openSuffix := openSuffix.toList, lines := lines.map String.toList,
    leader := true, crlf := false }

/-- inside a function body: a documented test declaration, a documented `set` and an undocumented `option` in the
gap, then the undocumented implementing macro -/
def exSplitTest : Module :=
  { bom := false, modDoc := none, tail := [.nl false],
    items := [
      .block (some (mkDocS "" ["Outer."])) (mkCallS "function" ["outer"])
        [ .cmd (some (mkDocS "" ["A test."])) (mkCallS "ct_add_test" ["NAME", "t1"]),
          .cmd (some (mkDocS "" ["A variable."])) (mkCallS "set" ["X", "1"]),
          .cmd none (mkCallS "option" ["OPT", "help"]),
          .block none (mkCallS "macro" ["${t1}", "a", "b"]) [] (mkCallS "endmacro" []) ]
        (mkCallS "endfunction" []) ] }

/-- a documented class with a documented member, a `cpp_attr` in the gap, the DOCUMENTED implementing function
(with `cmake_parse_arguments` in its body) and a later undocumented function -/
def exDocImpl : Module :=
  { bom := false, modDoc := none, tail := [.nl false],
    items := [
      .block (some (mkDocS "" ["A class."])) (mkCallS "cpp_class" ["MyClass"])
        [ .cmd (some (mkDocS "" ["A member."])) (mkCallS "cpp_member" ["go", "MyClass", "int"]),
          .cmd none (mkCallS "cpp_attr" ["MyClass", "color", "red"]),
          .block (some (mkDocS "" ["The implementation."])) (mkCallS "function" ["_go", "self", "n"])
            [ .cmd none (mkCallS "cmake_parse_arguments" ["ARG", "OPTS", "ONE", "MULTI", "${ARGN}"]) ]
            (mkCallS "endfunction" []),
          .block none (mkCallS "function" ["later", "x"]) [] (mkCallS "endfunction" []) ]
        (mkCallS "cpp_end_class" []) ] }

/-- both examples are in the relaxed input language and outside the one of `T_agg` -/
theorem TAggSeq_examples_wf :
    itemsWfS false false exSplitTest.items = true ∧ itemsWf false exSplitTest.items = false ∧
    itemsWfS false false exDocImpl.items = true ∧ itemsWf false exDocImpl.items = false := by
  decide +kernel

/-- the split test declaration: the function, the test completed by the macro behind the gap (parameter `b`,
macro), then the two gap commands' entries; the claimed undocumented macro gets no entry of its own -/
theorem TAggSeq_exSplitTest_entries :
    exSplitTest.entriesS {} =
      [ .func false (lit "outer") (lit "Outer.\n") [] false,
        .test false (lit "t1") (lit "A test.\n") false [lit "b"] true,
        .var (lit "X") (lit "A variable.\n") .string (some (lit "1")),
        .opt (lit "OPT") [] (lit "help") none ] := by
  decide +kernel

/-- the documented implementing definition: the class with the member completed (parameter `n`) and the gap
attribute, the definition's own entry with `**kwargs` from its own body, and the later function as an ordinary
definition without `**kwargs` -/
theorem TAggSeq_exDocImpl_entries :
    exDocImpl.entriesS {} =
      [ .cls (lit "MyClass") (lit "A class.\n") [] [] []
          [{ name := lit "go", doc := lit "A member.\n", parentClass := lit "MyClass", paramTypes := [lit "int"],
             params := [lit "n"], isCtor := false, isMacro := false }]
          [{ name := lit "color", doc := [], parentClass := lit "MyClass", dflt := some (lit "red") }],
        .func false (lit "_go") (lit "The implementation.\n") [lit "self", lit "n"] true,
        .func false (lit "later") [] [lit "x"] false ] := by
  decide +kernel

/-- `T_aggS` applies to both: the listener produces exactly these lists and ends with empty stacks -/
theorem TAggSeq_examples_run :
    (∃ st, aggregate {} exSplitTest.events = .ok st ∧ st.documented = exSplitTest.entriesS {} ∧ st.errors = 0 ∧
      st.classStack = [] ∧ st.defStack = [] ∧ st.awaiting = none) ∧
    (∃ st, aggregate {} exDocImpl.events = .ok st ∧ st.documented = exDocImpl.entriesS {} ∧ st.errors = 0 ∧
      st.classStack = [] ∧ st.defStack = [] ∧ st.awaiting = none) :=
  ⟨T_aggS {} exSplitTest TAggSeq_examples_wf.1 (Or.inl rfl),
   T_aggS {} exDocImpl TAggSeq_examples_wf.2.2.1 (Or.inl rfl)⟩

end Cminx
