import CminxLemmas.RstLemmas
/-!
# C20 — `RSTWriter` serialisation

Property theorems about the model in `CminxModel/Rst.lean` (`Doc.render` = `RSTWriter.to_text()`).

*Statement.* "Serialising an RSTWriter document is repeatable and does not change the document; the title is framed by
an over- and underline of the configured character for its section level repeated to the title's length, and re-framed
when the title is changed.  Every line of every paragraph, field, list item and nested directive heading added inside
directives nested d levels deep starts with exactly 3*d spaces beyond its own text, directive options are emitted
directly after the directive heading and before any content, and elements appear in the order they were added."

* `C20_frame`, `C20_frame_doc`; `C20_reframe`, `C20_reframe_render` — the framed title; after any history it is the last
  title assigned on the root (`lastRootTitle`).  Sections below the root and their header characters: `C20Full.lean`.
* `C20_indent_length`, `C20_indent_spaces`, `C20_para_lines`, `C20_field_line`, `C20_item_lines` (`_split`),
  `C20_option_lines`, `C20_heading_line` — at depth `d` every line of an element is `indent d` followed by its own text.
  `C20_subtree`, `C20_children_block`: an element below `k` directives is rendered at depth `k`.  `C20_added_at_depth`
  (`C20_added_text`, `_field`, `_list`, `_directive`): an appending call on the handle `h` adds its element at the path
  `h ++ [k]`, `k` the number of children so far.
* `C20_ancestors_exact`, `C20_ancestors`, `C20_elsewhere`, `C20_added_preserves` — what an operation does to the elements
  on the way to its handle, and that it leaves all others alone.
* `C20_options_first`; `C20_option_step`, `C20_content_step`, `C20_options_any_step`, `C20_options_history`,
  `C20_options_interleaved`, `C20_options_history_render` — options stand between heading and content, in call order,
  however `option` calls are interleaved with other calls (short of a `clear()` above the directive: `NoAncestorClear`).
* `C20_order`, `C20_order_root` (`C20_order_text`, `_field`, `_list`, `_directive`), `C20_order_history` — order of addition.
* `C20_clear`, `C20_clear_nested` — what `clear()` leaves.

## Purity / repeatability (deliberately *not* a theorem)

In the model, serialisation is a pure function `Doc.render : Doc → Str`: it takes the document and returns
text; there is no state it could change, so "serialising twice gives the same text and leaves the document
unchanged" is `rfl` here and stating it would be vacuous.  That the *Python* object behaves like this
(`to_text()` is repeatable and does not mutate the writer) is carried by the correspondence check, not by a
theorem: the harness pickles the writer before and after every `to_text()` call, compares the pickles, and
compares every repeated serialisation against `Doc.render` of the same history.
-/
namespace Cminx

/-- the title a root writer has after the history `ops`, if it was `t0` before: the argument of the last
    `title = …` assignment on the root handle `[]`, or `t0` if there is none -/
def lastRootTitle (t0 : Str) : List Op → Str
  | [] => t0
  | .setTitle [] t :: ops => lastRootTitle t ops
  | _ :: ops => lastRootTitle t0 ops

/-- the element addressed by a path of child indices in a list of elements:
    `[i]` is the `i`-th element, `i :: rest` descends into the body of the directive at index `i`;
    `none` for `[]`, an index out of range, or descending into something that is not a directive -/
def elemsAt : List Elem → List Nat → Option Elem
  | _, [] => none
  | es, [i] => es[i]?
  | es, i :: j :: rest =>
    match es[i]? with
    | some (.directive _ _ _ body) => elemsAt body (j :: rest)
    | _ => none

/-- the element of a document addressed by a path (see `elemsAt`) -/
def Doc.elemAt (w : Doc) (p : List Nat) : Option Elem := elemsAt w.body p

/-- the children of the writer a handle points at: the document body for the root handle `[]`,
    the body of the directive for a handle that resolves to a directive, `none` for an invalid handle -/
def Doc.childrenAt (w : Doc) : List Nat → Option (List Elem)
  | [] => some w.body
  | i :: p =>
    match w.elemAt (i :: p) with
    | some (.directive _ _ _ body) => some body
    | _ => none

/-- the marker of the list item with zero-based index `i` -/
def itemMarker (enumerated : Bool) (i : Nat) : Str :=
  if enumerated then natStr (i + 1) ++ lit ". " else lit "* "

/-- the option an operation adds to the directive with handle `h` (as a list of length ≤ 1) -/
def Op.optionAt (h : List Nat) : Op → List (Str × Str)
  | .option h' n v => if h' = h then [(n, v)] else []
  | _ => []

/-- the options added by `option` calls on handle `h` in the history `ops`, in call order -/
def optsOf (h : List Nat) : List Op → List (Str × Str)
  | [] => []
  | op :: ops => op.optionAt h ++ optsOf h ops

/-- the history never calls `clear()` on a strict ancestor of `h`
    (which would delete the directive `h` points at) -/
def NoAncestorClear (h : List Nat) (ops : List Op) : Prop :=
  ∀ p, Op.clear p ∈ ops → p <+: h → p = h

/-- the element an appending API call (`text`, `field`, `bulleted_list`/`enumerated_list`, `directive`) adds -/
def Op.appended : Op → Option Elem
  | .text _ t => some (.para t)
  | .field _ n t => some (.field n t)
  | .list _ en items => some (.list en items)
  | .directive _ name args => some (.directive name args [] [])
  | _ => none

theorem itemMarker_eq : itemMarker = itemMark := by
  funext en i
  rw [itemMarker, lit_ofList, lit_ofList]
  rfl

/-! ## `elemsAt`, `Doc.elemAt`, `Doc.childrenAt` through `Elem.sub` on `Doc.asElem`

The specification addresses elements from the document body and has no element for the path `[]`; the lemmas of
`RstLemmas` about paths and updates are stated for `Elem.sub` from the pseudo-directive `w.asElem`.  On non-empty paths
the two agree. -/

theorem elemsAt_cons (es : List Elem) (i : Nat) (rest : List Nat) :
    elemsAt es (i :: rest) = (es[i]?).bind (·.sub rest) := by
  induction rest generalizing es i with
  | nil => cases h : es[i]? <;> simp [elemsAt, h]
  | cons j r ih =>
    rw [elemsAt]
    cases es[i]? with
    | none => rfl
    | some c =>
      cases c with
      | directive name args opts body => exact (ih body j).trans (Elem.sub_cons (.directive name args opts body) j r).symm
      | _ => rfl

theorem Doc.elemAt_nil (w : Doc) : w.elemAt [] = none := by simp [Doc.elemAt, elemsAt]

theorem Doc.elemAt_cons (w : Doc) (i : Nat) (rest : List Nat) :
    w.elemAt (i :: rest) = w.asElem.sub (i :: rest) := by
  simp [Doc.elemAt, elemsAt_cons, Elem.sub_cons]

theorem Doc.elemAt_ne_nil {w : Doc} {p : List Nat} (hp : p ≠ []) : w.elemAt p = w.asElem.sub p := by
  cases p with
  | nil => exact absurd rfl hp
  | cons i rest => exact Doc.elemAt_cons w i rest

theorem Doc.ne_nil_of_elemAt {w : Doc} {p : List Nat} {e : Elem} (h : w.elemAt p = some e) : p ≠ [] := by
  rintro rfl
  simp [Doc.elemAt_nil] at h

theorem Doc.sub_of_elemAt {w : Doc} {p : List Nat} {e : Elem} (h : w.elemAt p = some e) :
    w.asElem.sub p = some e := by
  rw [← Doc.elemAt_ne_nil (Doc.ne_nil_of_elemAt h)]; exact h

theorem Doc.elemAt_update {w : Doc} {nop : NodeOp} {h p : List Nat} (hp : p ≠ []) :
    (w.update nop h).elemAt p = (w.asElem.update nop h).sub p := by
  cases p with
  | nil => exact absurd rfl hp
  | cons i rest => rw [Doc.elemAt_cons, Elem.sub_cons, Elem.sub_cons, Doc.asElem_children, Doc.update_body]

theorem Doc.childrenAt_iff (w : Doc) (h : List Nat) (body : List Elem) :
    w.childrenAt h = some body ↔ ∃ n a o, w.asElem.sub h = some (.directive n a o body) := by
  cases h with
  | nil => simp [Doc.childrenAt, Doc.asElem]
  | cons i p =>
    simp only [Doc.childrenAt, Doc.elemAt_cons]
    cases hs : w.asElem.sub (i :: p) with
    | none => simp
    | some c => cases c <;> simp

private theorem apply_eq (w : Doc) (op : Op) : w.apply op = w.update op.nodeOp op.handle := rfl

/-- The spec-side `Op.appended` agrees with the model's classification of operations. -/
theorem C20_appended_spec (op : Op) (e : Elem) : op.appended = some e ↔ op.nodeOp = .append e := by
  cases op <;> simp [Op.appended, Op.nodeOp]

theorem Op.optionAt_of_appended {op : Op} {e : Elem} (he : op.appended = some e) (h : List Nat) :
    op.optionAt h = [] := by
  cases op with
  | option h' n v => cases he
  | _ => rfl

theorem Op.optionAt_of_handle_ne {op : Op} {h : List Nat} (hne : op.handle ≠ h) : op.optionAt h = [] := by
  cases op with
  | option h' n v => exact if_neg hne
  | _ => rfl

theorem Op.eq_clear {op : Op} (h : op.nodeOp = .clear) : op = .clear op.handle := by
  cases op with
  | clear p => rfl
  | _ => cases h

theorem lastRootTitle_cons (t0 : Str) (op : Op) (ops : List Op) :
    lastRootTitle t0 (op :: ops) =
      lastRootTitle (match op.nodeOp, op.handle with | .setTitle t, [] => t | _, _ => t0) ops := by
  cases op with
  | setTitle h t => cases h <;> rfl
  | _ => rfl

/-- The heading is the title framed by an over- and underline of the header character repeated to the
    title's length. -/
theorem C20_frame (c : Char) (title : Str) :
    renderHeading [c] title =
      '\n' :: (List.replicate title.length c ++ '\n' :: (title ++ '\n' :: List.replicate title.length c)) := by
  simp [renderHeading, repeatStr_single_char]

/-- A serialised document begins with the framed title, followed by the body elements in order. -/
theorem C20_frame_doc (w : Doc) :
    w.render = renderHeading w.hc w.title ++ ['\n'] ++ renderElems 0 w.body := by
  simp [Doc.render]

/-- No operation changes the header character, and the title is the last one assigned on the root. -/
theorem C20_reframe (w : Doc) (ops : List Op) :
    (w.run ops).hc = w.hc ∧ (w.run ops).title = lastRootTitle w.title ops := by
  induction ops generalizing w with
  | nil => exact ⟨rfl, rfl⟩
  | cons op ops ih =>
    rw [Doc.run_cons, lastRootTitle_cons, (ih _).1, (ih _).2, apply_eq, Doc.update_title]
    exact ⟨Doc.update_hc .., rfl⟩

/-- Hence, after any history, the document is framed by its *current* title (re-framed on every change). -/
theorem C20_reframe_render (w : Doc) (c : Char) (hc : w.hc = [c]) (ops : List Op) :
    let t := lastRootTitle w.title ops
    (w.run ops).render =
      '\n' :: (List.replicate t.length c ++ '\n' :: (t ++ '\n' :: List.replicate t.length c))
        ++ ['\n'] ++ renderElems 0 (w.run ops).body := by
  intro t
  rw [C20_frame_doc, (C20_reframe w ops).1, (C20_reframe w ops).2, hc, C20_frame]

/-- `get_indents(d)` is `3*d` characters long … -/
theorem C20_indent_length (d : Nat) : (indent d).length = 3 * d := by simp [indent]

/-- … all of which are spaces. -/
theorem C20_indent_spaces (d : Nat) : ∀ c ∈ indent d, c = ' ' := indent_spaces d

/-- Every line of a paragraph (single- or multi-line, with its own leading spaces) is emitted as
    the indent followed by exactly that line. -/
theorem C20_para_lines (d : Nat) (t : Str) :
    splitNl (renderPara d t) = (splitNl t).map (indent d ++ ·) := renderPara_lines d t

/-- A field is a blank line followed by the line `indent ++ ":name: text"`. -/
theorem C20_field_line (d : Nat) (n t : Str) :
    renderField d n t = '\n' :: (indent d ++ (':' :: n ++ ':' :: ' ' :: t)) :=
  rfl

/-- A list is a blank line followed by one `'\n'`-terminated chunk `indent ++ marker ++ item` per item, in order. -/
theorem C20_item_lines (d : Nat) (en : Bool) (items : List Str) :
    renderList d en items =
      '\n' :: (items.mapIdx fun i it => indent d ++ (itemMarker en i ++ it) ++ ['\n']).flatten := by
  simp [renderList, renderItems_eq, itemMarker_eq]

/-- Line view of the same fact: if no item contains a newline, a list is a blank line, then exactly one line
    `indent ++ marker ++ item` per item, in order (the final `[]` is the piece after the last `'\n'`).
    (An item that itself contains `'\n'` is emitted verbatim: its continuation lines are *not* indented, in the
    model as in `RSTList.build_list_string`; see the example at the end of this file.) -/
theorem C20_item_lines_split (d : Nat) (en : Bool) (items : List Str) (h : ∀ it ∈ items, '\n' ∉ it) :
    splitNl (renderList d en items) =
      [] :: (items.mapIdx fun i it => indent d ++ (itemMarker en i ++ it)) ++ [[]] := by
  simp [renderList_lines d en items h, itemMarker_eq]

/-- Options are one `'\n'`-terminated chunk `indent ++ ":name: value"` per option, in order. -/
theorem C20_option_lines (d : Nat) (opts : List (Str × Str)) :
    renderOpts d opts =
      (opts.map fun nv => indent d ++ (':' :: nv.1 ++ ':' :: ' ' :: nv.2) ++ ['\n']).flatten :=
  renderOpts_eq d opts

/-- A directive heading is a blank line followed by the line `indent ++ ".. name:: args"`. -/
theorem C20_heading_line (d : Nat) (name : Str) (args : List Str) :
    renderDirHeading d name args = '\n' :: (indent d ++ (lit ".. " ++ name ++ lit ":: " ++ joinWith [','] args)) := by
  simp [renderDirHeading]

private theorem render_infix_of_elemAt {w : Doc} {h : List Nat} {e : Elem} (he : w.elemAt h = some e) :
    e.render (h.length - 1) <:+: w.render := by
  obtain ⟨i, rest, rfl⟩ := List.exists_cons_of_ne_nil (Doc.ne_nil_of_elemAt he)
  rw [Doc.elemAt_cons, Elem.sub_cons, Doc.asElem_children] at he
  obtain ⟨c, hc, hs⟩ := Option.bind_eq_some_iff.1 he
  have := ((Elem.render_sub 0 hs).trans (render_infix_renderElems 0 (List.mem_of_getElem? hc))).trans
    w.renderElems_suffix_render.isInfix
  rwa [Nat.zero_add] at this

/-- An element inside `k` nested directives is rendered at indent depth `k`. -/
theorem C20_subtree (w : Doc) (h : List Nat) (e : Elem) (he : w.elemAt h = some e) :
    ∃ pre post, w.render = pre ++ e.render (h.length - 1) ++ post := by
  obtain ⟨pre, post, hr⟩ := render_infix_of_elemAt he
  exact ⟨pre, post, hr.symm⟩

/-- The same, one level down: the children of the writer at handle `h` are rendered, in order and as a
    contiguous block, at indent depth `h.length`. -/
theorem C20_children_block (w : Doc) (h : List Nat) (body : List Elem) (hv : w.childrenAt h = some body) :
    ∃ pre post, w.render = pre ++ renderElems h.length body ++ post := by
  have hi : renderElems h.length body <:+: w.render := by
    cases h with
    | nil => cases hv; exact w.renderElems_suffix_render.isInfix
    | cons i p =>
      obtain ⟨n, a, o, hs⟩ := (Doc.childrenAt_iff w (i :: p) body).1 hv
      exact (renderElems_infix_directive p.length n a o body).trans (render_infix_of_elemAt ((Doc.elemAt_cons w i p).trans hs))
  obtain ⟨pre, post, hr⟩ := hi
  exact ⟨pre, post, hr.symm⟩

/-- An appending call on a valid handle (root or directive) with `k` children puts the new element at child
    index `k` of that node — hence, by `C20_subtree`, at indent depth `h.length` — and the node's children are
    the old ones followed by the new one. -/
theorem C20_added_at_depth (w : Doc) (op : Op) (e : Elem) (body : List Elem)
    (hop : op.nodeOp = .append e) (hv : w.childrenAt op.handle = some body) :
    (w.apply op).elemAt (op.handle ++ [body.length]) = some e ∧
    (w.apply op).childrenAt op.handle = some (body ++ [e]) := by
  obtain ⟨n, a, o, hs⟩ := (Doc.childrenAt_iff w _ body).1 hv
  have hupd : (w.apply op).asElem.sub op.handle = some (.directive n a o (body ++ [e])) := by
    rw [apply_eq, hop, Doc.asElem_update_append]
    simpa [hs] using Elem.sub_update_prefix (.append e) w.asElem op.handle []
  constructor
  · rw [Doc.elemAt_ne_nil (by simp), Elem.sub_append, hupd]
    simp [Elem.sub_cons, Elem.children]
  · exact (Doc.childrenAt_iff _ _ _).2 ⟨n, a, o, hupd⟩

/-- Any operation leaves the element at a path that does not lead to its handle untouched, unless it is a `clear()` at or
    above that path: the document-level form of `Elem.sub_update_other`. -/
theorem C20_elsewhere (w : Doc) (op : Op) (p : List Nat) (x : Elem)
    (hp : ¬ p <+: op.handle) (hc : op.nodeOp ≠ .clear ∨ ¬ op.handle <+: p) (hx : w.elemAt p = some x) :
    (w.apply op).elemAt p = some x := by
  rw [apply_eq, Doc.elemAt_update (Doc.ne_nil_of_elemAt hx)]
  exact Elem.sub_update_other hp hc (Doc.sub_of_elemAt hx)

/-- An appending call leaves every previously existing element in place, except the ancestors of the
    insertion point (whose bodies grew; see `C20_ancestors`). -/
theorem C20_added_preserves (w : Doc) (op : Op) (e : Elem) (hop : op.nodeOp = .append e)
    (p : List Nat) (x : Elem) (hp : ¬ p <+: op.handle) (hx : w.elemAt p = some x) :
    (w.apply op).elemAt p = some x :=
  C20_elsewhere w op p x hp (.inl (by simp [hop])) hx

/-- Any operation on a handle at or below `p` updates the element at `p` by the model's `Elem.update` along the rest of the
    handle: the document-level form of `Elem.sub_update_prefix`. -/
theorem C20_ancestors_exact (w : Doc) (op : Op) (p q : List Nat) (hh : op.handle = p ++ q) :
    (w.apply op).elemAt p = (w.elemAt p).map (Elem.update op.nodeOp q) := by
  cases p with
  | nil => rfl
  | cons i p =>
    rw [apply_eq, hh, Doc.elemAt_update (List.cons_ne_nil i p), Elem.sub_update_prefix, Doc.elemAt_ne_nil (List.cons_ne_nil i p)]

/-- Any operation (appending, `option`, title change, `clear`) on a handle strictly below the directive at `p`
    leaves that directive's heading and options unchanged and does not change its number of children. -/
theorem C20_ancestors (w : Doc) (op : Op) (p : List Nat) (i : Nat) (q : List Nat)
    (hh : op.handle = p ++ i :: q) (name : Str) (args : List Str) (opts : List (Str × Str)) (b : List Elem)
    (hp : w.elemAt p = some (.directive name args opts b)) :
    ∃ b', (w.apply op).elemAt p = some (.directive name args opts b') ∧ b'.length = b.length := by
  refine ⟨updateAt op.nodeOp i q b, ?_, updateAt_length _ _ _ _⟩
  rw [C20_ancestors_exact w op p (i :: q) hh, hp]
  simp

theorem C20_added_text (w : Doc) (h : List Nat) (t : Str) (body : List Elem) (hv : w.childrenAt h = some body) :
    (w.apply (.text h t)).elemAt (h ++ [body.length]) = some (.para t) ∧
    (w.apply (.text h t)).childrenAt h = some (body ++ [.para t]) :=
  C20_added_at_depth w (.text h t) _ body rfl hv

theorem C20_added_field (w : Doc) (h : List Nat) (n t : Str) (body : List Elem) (hv : w.childrenAt h = some body) :
    (w.apply (.field h n t)).elemAt (h ++ [body.length]) = some (.field n t) ∧
    (w.apply (.field h n t)).childrenAt h = some (body ++ [.field n t]) :=
  C20_added_at_depth w (.field h n t) _ body rfl hv

theorem C20_added_list (w : Doc) (h : List Nat) (en : Bool) (items : List Str) (body : List Elem)
    (hv : w.childrenAt h = some body) :
    (w.apply (.list h en items)).elemAt (h ++ [body.length]) = some (.list en items) ∧
    (w.apply (.list h en items)).childrenAt h = some (body ++ [.list en items]) :=
  C20_added_at_depth w (.list h en items) _ body rfl hv

/-- `directive`: the new directive has no options and no content, and `h ++ [k]` is its handle -/
theorem C20_added_directive (w : Doc) (h : List Nat) (name : Str) (args : List Str) (body : List Elem)
    (hv : w.childrenAt h = some body) :
    (w.apply (.directive h name args)).elemAt (h ++ [body.length]) = some (.directive name args [] []) ∧
    (w.apply (.directive h name args)).childrenAt h = some (body ++ [.directive name args [] []]) ∧
    (w.apply (.directive h name args)).childrenAt (h ++ [body.length]) = some [] := by
  obtain ⟨h1, h2⟩ := C20_added_at_depth w (.directive h name args) _ body rfl hv
  exact ⟨h1, h2, (Doc.childrenAt_iff _ _ _).2 ⟨name, args, [], Doc.sub_of_elemAt h1⟩⟩

/-- A directive is rendered as: heading, then its options, then (after a blank line, if there is content) its
    content one level deeper. -/
theorem C20_options_first (d : Nat) (name : Str) (args : List Str) (opts : List (Str × Str)) (body : List Elem) :
    (Elem.directive name args opts body).render d =
      renderDirHeading d name args ++ '\n' :: renderOpts (d + 1) opts
        ++ (if body.isEmpty then [] else ['\n']) ++ renderElems (d + 1) body :=
  render_directive d name args opts body

/-- `option` on a directive handle appends to that directive's options and leaves its heading and content alone. -/
theorem C20_option_step (w : Doc) (h : List Nat) (n v : Str) (name : Str) (args : List Str)
    (opts : List (Str × Str)) (body : List Elem) (hd : w.elemAt h = some (.directive name args opts body)) :
    (w.apply (.option h n v)).elemAt h = some (.directive name args (opts ++ [(n, v)]) body) := by
  rw [C20_ancestors_exact w (.option h n v) h [] (List.append_nil h).symm, hd]
  rfl

/-- An appending call on a directive handle appends to its content and leaves its heading and options alone. -/
theorem C20_content_step (w : Doc) (op : Op) (e : Elem) (hop : op.nodeOp = .append e) (name : Str)
    (args : List Str) (opts : List (Str × Str)) (body : List Elem)
    (hd : w.elemAt op.handle = some (.directive name args opts body)) :
    (w.apply op).elemAt op.handle = some (.directive name args opts (body ++ [e])) := by
  rw [C20_ancestors_exact w op op.handle [] (List.append_nil _).symm, hd, hop]
  rfl

/-- One arbitrary step of a history: the directive at `h` keeps its arguments, and gains exactly the option (if
    any) this step adds on handle `h` — at the end of its option list — whatever else the step does. -/
theorem C20_options_any_step (w : Doc) (op : Op) (h : List Nat) (name : Str) (args : List Str)
    (opts : List (Str × Str)) (body : List Elem) (hd : w.elemAt h = some (.directive name args opts body))
    (hcl : ∀ p, op = .clear p → p <+: h → p = h) :
    ∃ name' body', (w.apply op).elemAt h = some (.directive name' args (opts ++ op.optionAt h) body') := by
  by_cases hpre : h <+: op.handle
  · obtain ⟨q, hq⟩ := hpre
    rw [C20_ancestors_exact w op h q hq.symm, hd]
    cases q with
    | nil =>
      rw [List.append_nil] at hq
      subst hq
      cases op <;> simp [Op.nodeOp, Op.optionAt, Op.handle]
    | cons i q =>
      exact ⟨name, updateAt op.nodeOp i q body, by simp [Op.optionAt_of_handle_ne (show op.handle ≠ h by simp [← hq])]⟩
  · have hne : op.handle ≠ h := fun e => hpre (e ▸ List.prefix_refl _)
    refine ⟨name, body, ?_⟩
    rw [Op.optionAt_of_handle_ne hne, List.append_nil]
    refine C20_elsewhere w op h _ hpre ?_ hd
    by_cases hc : op.nodeOp = .clear
    · exact .inr fun hpre' => hne (hcl _ (Op.eq_clear hc) hpre')
    · exact .inl hc

/-- Arbitrary interleavings: after any history that does not `clear()` an ancestor of the directive at `h`,
    that directive still has its arguments, and its options are the original ones followed by exactly the
    options added on handle `h`, in call order — irrespective of how `option` calls were interleaved with content
    calls, title changes and `clear()` on this or any other handle. -/
theorem C20_options_history (w : Doc) (ops : List Op) (h : List Nat) (name : Str) (args : List Str)
    (opts : List (Str × Str)) (body : List Elem) (hd : w.elemAt h = some (.directive name args opts body))
    (hcl : NoAncestorClear h ops) :
    ∃ name' body', (w.run ops).elemAt h = some (.directive name' args (opts ++ optsOf h ops) body') := by
  induction ops generalizing w name opts body with
  | nil => exact ⟨name, body, by simpa [optsOf, Doc.run_nil] using hd⟩
  | cons op ops ih =>
    obtain ⟨name₁, body₁, h₁⟩ := C20_options_any_step w op h name args opts body hd
      (fun p hp => hcl p (by simp [hp]))
    obtain ⟨name₂, body₂, h₂⟩ := ih (w.apply op) name₁ _ body₁ h₁
      (fun p hp => hcl p (List.mem_cons_of_mem _ hp))
    exact ⟨name₂, body₂, by rw [Doc.run_cons, h₂]; simp [optsOf]⟩

/-- The special case that makes the content explicit: a history consisting only of `option` calls and appending
    calls on the directive handle `h`, interleaved in any way, yields that directive with the options in call
    order and the added elements in call order. -/
theorem C20_options_interleaved (w : Doc) (ops : List Op) (h : List Nat) (name : Str) (args : List Str)
    (opts : List (Str × Str)) (body : List Elem) (hd : w.elemAt h = some (.directive name args opts body))
    (hops : ∀ op ∈ ops, op.handle = h ∧ (op.appended.isSome ∨ ∃ n v, op = .option h n v)) :
    (w.run ops).elemAt h =
      some (.directive name args (opts ++ optsOf h ops) (body ++ ops.filterMap Op.appended)) := by
  induction ops generalizing w opts body with
  | nil => simpa [optsOf, Doc.run_nil] using hd
  | cons op ops ih =>
    obtain ⟨hh, hk⟩ := hops op (by simp)
    have hrest := fun o ho => hops o (List.mem_cons_of_mem _ ho)
    rw [Doc.run_cons]
    rcases hk with ha | ⟨n, v, rfl⟩
    · obtain ⟨e, he⟩ := Option.isSome_iff_exists.1 ha
      have := C20_content_step w op e ((C20_appended_spec op e).1 he) name args opts body (hh ▸ hd)
      rw [hh] at this
      rw [ih (w.apply op) opts (body ++ [e]) this hrest]
      simp [optsOf, Op.optionAt_of_appended he, he]
    · have := C20_option_step w h n v name args opts body hd
      rw [ih _ (opts ++ [(n, v)]) body this hrest]
      have : Op.appended (.option h n v) = none := rfl
      simp [optsOf, Op.optionAt, this]

/-- … and therefore the serialised document contains that directive as heading, then all those options, then
    the content — the options sit between heading and content however the calls were interleaved. -/
theorem C20_options_history_render (w : Doc) (ops : List Op) (h : List Nat) (name : Str) (args : List Str)
    (opts : List (Str × Str)) (body : List Elem) (hd : w.elemAt h = some (.directive name args opts body))
    (hcl : NoAncestorClear h ops) :
    ∃ name' body' pre post, (w.run ops).render =
      pre ++ (renderDirHeading (h.length - 1) name' args ++ '\n' :: renderOpts (h.length - 1 + 1) (opts ++ optsOf h ops)
        ++ (if body'.isEmpty then [] else ['\n']) ++ renderElems (h.length - 1 + 1) body') ++ post := by
  obtain ⟨name', body', hr⟩ := C20_options_history w ops h name args opts body hd hcl
  obtain ⟨pre, post, hp⟩ := C20_subtree _ h _ hr
  exact ⟨name', body', pre, post, by rw [hp, render_directive]⟩

/-- Elements are rendered one after the other in list order. -/
theorem C20_order (d : Nat) (es₁ es₂ : List Elem) :
    renderElems d (es₁ ++ es₂) = renderElems d es₁ ++ renderElems d es₂ := renderElems_append d es₁ es₂

/-- An appending call on the root appends the new element's text (and a newline) to the serialisation. -/
theorem C20_order_root (w : Doc) (op : Op) (e : Elem) (hop : op.nodeOp = .append e) (hh : op.handle = []) :
    (w.apply op).render = w.render ++ e.render 0 ++ ['\n'] := by
  simp [apply_eq, hop, hh, Doc.update, Doc.render, renderElems_append, renderElems_cons, renderElems_nil]

theorem C20_order_text (w : Doc) (t : Str) :
    (w.apply (.text [] t)).render = w.render ++ renderPara 0 t ++ ['\n'] :=
  C20_order_root w _ (.para t) rfl rfl

theorem C20_order_field (w : Doc) (n t : Str) :
    (w.apply (.field [] n t)).render = w.render ++ renderField 0 n t ++ ['\n'] :=
  C20_order_root w _ (.field n t) rfl rfl

theorem C20_order_list (w : Doc) (en : Bool) (items : List Str) :
    (w.apply (.list [] en items)).render = w.render ++ renderList 0 en items ++ ['\n'] :=
  C20_order_root w _ (.list en items) rfl rfl

theorem C20_order_directive (w : Doc) (name : Str) (args : List Str) :
    (w.apply (.directive [] name args)).render = w.render ++ renderDirHeading 0 name args ++ ['\n', '\n'] := by
  rw [C20_order_root w _ (.directive name args [] []) rfl rfl]
  simp [render_directive, renderOpts, renderElems_nil]

/-- A whole history of appending calls on the root: the serialisation grows by the added elements in call order. -/
theorem C20_order_history (w : Doc) (ops : List Op)
    (hops : ∀ op ∈ ops, op.handle = [] ∧ op.appended.isSome) :
    (w.run ops).render = w.render ++ renderElems 0 (ops.filterMap Op.appended) := by
  induction ops generalizing w with
  | nil => simp [Doc.run_nil, renderElems_nil]
  | cons op ops ih =>
    obtain ⟨hh, ha⟩ := hops op (by simp)
    obtain ⟨e, he⟩ := Option.isSome_iff_exists.1 ha
    rw [Doc.run_cons, ih _ (fun o ho => hops o (List.mem_cons_of_mem _ ho)),
      C20_order_root w op e ((C20_appended_spec op e).1 he) hh]
    simp [he, renderElems_cons]

/-- `clear()` on the root leaves just the framed title. -/
theorem C20_clear (w : Doc) : (w.apply (.clear [])).render = renderHeading w.hc w.title ++ ['\n'] :=
  rfl

/-- `clear()` on a directive handle empties exactly that directive's body: heading and options are kept,
    everything below is gone, and everything that is neither above nor below is untouched
    (ancestors: `C20_ancestors`). -/
theorem C20_clear_nested (w : Doc) (h : List Nat) (name : Str) (args : List Str) (opts : List (Str × Str))
    (body : List Elem) (hd : w.elemAt h = some (.directive name args opts body)) :
    (w.apply (.clear h)).elemAt h = some (.directive name args opts []) ∧
    (w.apply (.clear h)).childrenAt h = some [] ∧
    (∀ i q, (w.apply (.clear h)).elemAt (h ++ i :: q) = none) ∧
    (∀ p x, ¬ p <+: h → ¬ h <+: p → w.elemAt p = some x → (w.apply (.clear h)).elemAt p = some x) := by
  have h1 : (w.apply (.clear h)).elemAt h = some (.directive name args opts []) := by
    rw [C20_ancestors_exact w (.clear h) h [] (List.append_nil h).symm, hd]
    rfl
  refine ⟨h1, (Doc.childrenAt_iff _ _ _).2 ⟨name, args, opts, Doc.sub_of_elemAt h1⟩, fun i q => ?_,
    fun p x hp hp' => C20_elsewhere w (.clear h) p x hp (.inr hp')⟩
  rw [Doc.elemAt_ne_nil (by simp), Elem.sub_append, Doc.sub_of_elemAt h1]
  simp [Elem.sub_cons, Elem.children]

/-! ## Examples on a concrete document -/

section Examples

/-- a history with a two-line paragraph, a directive with arguments, options added *after* content, a nested
    directive with a field and an enumerated list, a title change, and a bulleted list -/
private def exOps : List Op :=
  [.text [] (lit "a\n b"),
   .directive [] (lit "note") [lit "x", lit "y"],
   .text [1] (lit "in"),
   .option [1] (lit "k") (lit "v"),
   .directive [1] (lit "inner") [],
   .field [1, 1] (lit "f") (lit "g"),
   .setTitle [] (lit "Title"),
   .option [1] (lit "k2") [],
   .list [1, 1] true [lit "one", lit "two"],
   .list [] false [lit "p"]]

private def exDoc0 : Doc := { hc := ['#'], title := lit "T", body := [] }

private def exDoc : Doc := exDoc0.run exOps

private def exInnerBody : List Elem := [.field (lit "f") (lit "g"), .list true [lit "one", lit "two"]]
private def exNoteOpts : List (Str × Str) := [(lit "k", lit "v"), (lit "k2", [])]
private def exNoteBody : List Elem := [.para (lit "in"), .directive (lit "inner") [] [] exInnerBody]

example : exDoc.body =
    [.para (lit "a\n b"), .directive (lit "note") [lit "x", lit "y"] exNoteOpts exNoteBody, .list false [lit "p"]] := rfl

set_option maxRecDepth 4096 in
example : exDoc.render = lit
    "\n#####\nTitle\n#####\na\n b\n\n.. note:: x,y\n   :k: v\n   :k2: \n\n   in\n\n   .. inner:: \n\n\n      :f: g\n\n      1. one\n      2. two\n\n\n\n\n* p\n\n" :=
  eq_lit_of rfl

example : renderHeading ['#'] (lit "Title") = lit "\n#####\nTitle\n#####" :=
  (C20_frame '#' _).trans (eq_lit_of rfl)
example : lastRootTitle exDoc0.title exOps = lit "Title" := by decide
example : exDoc.hc = ['#'] ∧ exDoc.title = lit "Title" := C20_reframe exDoc0 exOps
example : ∃ rest, exDoc.render = lit "\n#####\nTitle\n#####\n" ++ rest :=
  ⟨_, (C20_reframe_render exDoc0 '#' rfl exOps).trans (congrArg (· ++ _) (eq_lit_of rfl))⟩

example : splitNl (renderPara 2 (lit "a\n b")) = [lit "      a", lit "       b"] :=
  (C20_para_lines 2 _).trans (by decide)
example : renderField 1 (lit "f") (lit "g") = lit "\n   :f: g" :=
  (C20_field_line 1 _ _).trans (eq_lit_of rfl)
example : renderList 1 true [lit "one", lit "two"] = lit "\n   1. one\n   2. two\n" :=
  (C20_item_lines 1 true _).trans (eq_lit_of rfl)
example : renderOpts 1 exNoteOpts = lit "   :k: v\n   :k2: \n" :=
  (C20_option_lines 1 _).trans (eq_lit_of rfl)
example : renderDirHeading 1 (lit "inner") [lit "x", lit "y"] = lit "\n   .. inner:: x,y" :=
  (C20_heading_line 1 _ _).trans (eq_lit_of rfl)
example : (indent 2).length = 6 := C20_indent_length 2
example : splitNl (renderList 1 true [lit "one", lit "two"]) = [[], lit "   1. one", lit "   2. two", []] :=
  (C20_item_lines_split 1 true _ (by decide)).trans (by decide)
-- the newline-freeness hypothesis of `C20_item_lines_split` is needed: continuation lines of an item are not indented
example : splitNl (renderList 1 false [lit "a\nb"]) = [[], lit "   * a", lit "b", []] := by decide

-- the field sits inside two directives and is rendered at depth 2
example : exDoc.elemAt [1, 1, 0] = some (.field (lit "f") (lit "g")) := rfl
example : ∃ pre post, exDoc.render = pre ++ lit "\n      :f: g" ++ post :=
  C20_subtree exDoc [1, 1, 0] (.field (lit "f") (lit "g")) rfl
example : exDoc.elemAt [] = none ∧ exDoc.elemAt [0, 0] = none ∧ exDoc.elemAt [7] = none := ⟨rfl, rfl, rfl⟩
example : ∃ pre post, exDoc.render = pre ++ renderElems 2 exInnerBody ++ post :=
  C20_children_block exDoc [1, 1] exInnerBody rfl

-- adding to the nested directive `[1, 1]`, which has two children, and elsewhere
example : (exDoc.apply (.text [1, 1] (lit "new"))).elemAt [1, 1, 2] = some (.para (lit "new")) :=
  (C20_added_text exDoc [1, 1] (lit "new") exInnerBody rfl).1
example : (exDoc.apply (.text [] (lit "new"))).elemAt [3] = some (.para (lit "new")) :=
  (C20_added_text exDoc [] (lit "new") exDoc.body rfl).1
example : (exDoc.apply (.field [1] (lit "a") (lit "b"))).elemAt [1, 2] = some (.field (lit "a") (lit "b")) :=
  (C20_added_field exDoc [1] (lit "a") (lit "b") exNoteBody rfl).1
example : (exDoc.apply (.list [1] false [lit "q"])).elemAt [1, 2] = some (.list false [lit "q"]) :=
  (C20_added_list exDoc [1] false [lit "q"] exNoteBody rfl).1
example : (exDoc.apply (.directive [1, 1] (lit "d") [])).childrenAt [1, 1, 2] = some [] :=
  (C20_added_directive exDoc [1, 1] (lit "d") [] exInnerBody rfl).2.2
example : (exDoc.apply (.text [1, 1] (lit "new"))).elemAt [1, 0] = some (.para (lit "in")) :=
  C20_added_preserves exDoc (.text [1, 1] (lit "new")) _ rfl [1, 0] _ (by decide) rfl
example : (exDoc.apply (.text [1, 1] (lit "new"))).elemAt [1, 1, 0] = some (.field (lit "f") (lit "g")) :=
  C20_added_preserves exDoc (.text [1, 1] (lit "new")) _ rfl [1, 1, 0] _ (by decide) rfl
example : ∃ b', (exDoc.apply (.text [1, 1] (lit "new"))).elemAt [1] =
    some (.directive (lit "note") [lit "x", lit "y"] exNoteOpts b') ∧ b'.length = 2 :=
  C20_ancestors exDoc (.text [1, 1] (lit "new")) [1] 1 [] rfl (lit "note") [lit "x", lit "y"] exNoteOpts exNoteBody rfl
example : (exDoc.apply (.clear [1, 1])).elemAt [0] = some (.para (lit "a\n b")) :=
  C20_elsewhere exDoc (.clear [1, 1]) [0] _ (by decide) (.inr (by decide)) rfl

-- in `exOps` the options `k`, `k2` on handle `[1]` are interleaved with content calls
example : optsOf [1] (exOps.drop 2) = exNoteOpts := by decide
example : NoAncestorClear [1] (exOps.drop 2) := fun p hp => by simp [exOps] at hp
example : ∃ name' body', exDoc.elemAt [1] = some (.directive name' [lit "x", lit "y"] ([] ++ exNoteOpts) body') :=
  C20_options_history (exDoc0.run (exOps.take 2)) (exOps.drop 2) [1] (lit "note") [lit "x", lit "y"] [] [] rfl
    fun p hp => by simp [exOps] at hp
-- `NoAncestorClear` is needed: after `clear()` on the root, `[0]` can come to denote a different, fresh directive
example :
    let w := exDoc0.run [.directive [] (lit "d") [], .option [0] (lit "k") []]
    let ops := [Op.clear [], .directive [] (lit "e") [lit "a"]]
    w.elemAt [0] = some (.directive (lit "d") [] [(lit "k", [])] []) ∧ optsOf [0] ops = [] ∧
    (w.run ops).elemAt [0] = some (.directive (lit "e") [lit "a"] [] []) ∧ ¬ NoAncestorClear [0] ops :=
  ⟨rfl, rfl, rfl, fun h => absurd (h [] (by simp) List.nil_prefix) (by decide)⟩
example :
    let ops := [Op.text [0] (lit "c1"), .option [0] (lit "k1") (lit "v1"), .field [0] (lit "f") (lit "g"),
                .option [0] (lit "k2") []]
    ((exDoc0.apply (.directive [] (lit "d") [lit "a"])).run ops).elemAt [0] =
      some (.directive (lit "d") [lit "a"] ([] ++ [(lit "k1", lit "v1"), (lit "k2", [])])
        ([] ++ [.para (lit "c1"), .field (lit "f") (lit "g")])) :=
  C20_options_interleaved (exDoc0.apply (.directive [] (lit "d") [lit "a"])) _ [0] (lit "d") [lit "a"] [] [] rfl
    (by simp [Op.handle, Op.appended])
example : (exDoc.apply (.option [1, 1] (lit "o") (lit "v"))).elemAt [1, 1] =
    some (.directive (lit "inner") [] ([] ++ [(lit "o", lit "v")]) exInnerBody) :=
  C20_option_step exDoc [1, 1] (lit "o") (lit "v") (lit "inner") [] [] exInnerBody rfl
example : (exDoc.apply (.text [1, 1] (lit "z"))).elemAt [1, 1] =
    some (.directive (lit "inner") [] [] (exInnerBody ++ [.para (lit "z")])) :=
  C20_content_step exDoc (.text [1, 1] (lit "z")) _ rfl (lit "inner") [] [] exInnerBody rfl

example : (exDoc.apply (.text [] (lit "z"))).render = exDoc.render ++ lit "z\n" :=
  (C20_order_text exDoc _).trans ((List.append_assoc ..).trans (congrArg _ (eq_lit_of rfl)))
example : (exDoc.apply (.directive [] (lit "z") [])).render = exDoc.render ++ lit "\n.. z:: \n\n" :=
  (C20_order_directive exDoc _ _).trans ((List.append_assoc ..).trans (congrArg _ (eq_lit_of rfl)))
example : (exDoc0.run [.text [] (lit "1"), .field [] (lit "2") (lit "3"), .list [] true [lit "4"]]).render =
    exDoc0.render ++ lit "1\n\n:2: 3\n\n1. 4\n\n" :=
  (C20_order_history _ _ (by simp [Op.handle, Op.appended])).trans (congrArg _ (eq_lit_of rfl))

example : (exDoc.apply (.clear [])).render = lit "\n#####\nTitle\n#####\n" :=
  (C20_clear exDoc).trans (eq_lit_of rfl)
example : (exDoc.apply (.clear [1])).elemAt [1] =
    some (.directive (lit "note") [lit "x", lit "y"] exNoteOpts []) :=
  (C20_clear_nested exDoc [1] (lit "note") [lit "x", lit "y"] exNoteOpts exNoteBody rfl).1
example : (exDoc.apply (.clear [1])).elemAt [1, 1, 0] = none :=
  (C20_clear_nested exDoc [1] (lit "note") [lit "x", lit "y"] exNoteOpts exNoteBody rfl).2.2.1 1 [0]

end Examples

end Cminx
