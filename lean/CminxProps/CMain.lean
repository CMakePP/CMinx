import CminxModel.Main
import CminxProps.C18
import CminxProps.C16Cli
import CminxProps.C15Glob
/-!
# Program-level corollaries: `cminx <argv>` as one function (`Main.cminxMain`)

The per-layer theorems composed along the path a command line takes: parser → command-line source → layering → settings →
exclusion → walk → pages.
-/
namespace Cminx

theorem cminxMain_ran {argv : List Str} {sfile : Str → Source} {user defaults : Source} {world : Str → World}
    {f1 f2 f3 : Str → Str} {r : RunResult} {st : Status}
    (h : cminxMain argv sfile user defaults world f1 f2 f3 = .ran r st) :
    ∃ files vals filters cs, mainSettings argv sfile user defaults = some (.ok (files, vals, filters)) ∧
      Glob.compileAll (patternStrs filters) = .ok cs ∧
      (r, st) = runMain (walkCfgOfSettings vals (aggCfgOfSettings vals f1 f2 f3)) (files.map (fun f => mainInputOf cs (world f))) {} := by
  unfold cminxMain at h
  split at h
  · cases h
  · cases h
  · rename_i files vals filters hm
    split at h
    · cases h
    · cases h
    · rename_i cs hc
      simp only [MainOutcome.ran.injEq] at h
      exact ⟨files, vals, filters, cs, hm, hc, by rw [← h.1, ← h.2]⟩

/-- C18 for the whole command line: if the resolved settings hold no string under `output.directory` (`hno`, about `vals`; how a
    source's value gets there is `mainSettings_get`) the run writes no file at all, whatever the inputs, the patterns and the other
    settings are -/
theorem CMain_no_output_no_writes {argv : List Str} {sfile : Str → Source} {user defaults : Source} {world : Str → World}
    {f1 f2 f3 : Str → Str} {r : RunResult} {st : Status}
    (h : cminxMain argv sfile user defaults world f1 f2 f3 = .ran r st)
    (hno : ∀ files vals filters, mainSettings argv sfile user defaults = some (.ok (files, vals, filters)) →
      Vals.str? vals "output.directory" = none) :
    r.writes = [] := by
  obtain ⟨files, vals, filters, cs, hm, -, hrun⟩ := cminxMain_ran h
  have hs : (walkCfgOfSettings vals (aggCfgOfSettings vals f1 f2 f3)).toStdout = true :=
    congrArg Option.isNone (hno files vals filters hm)
  obtain rfl : r = (runMain _ _ {}).1 := congrArg Prod.fst hrun
  exact C18_none_runMain hs _ _

/-- … and if they hold one, nothing is printed: the pages go to files only -/
theorem CMain_output_nothing_printed {argv : List Str} {sfile : Str → Source} {user defaults : Source} {world : Str → World}
    {f1 f2 f3 : Str → Str} {r : RunResult} {st : Status}
    (h : cminxMain argv sfile user defaults world f1 f2 f3 = .ran r st)
    (hout : ∀ files vals filters, mainSettings argv sfile user defaults = some (.ok (files, vals, filters)) →
      ∃ d, Vals.str? vals "output.directory" = some d) :
    r.stdout = [] := by
  obtain ⟨files, vals, filters, cs, hm, -, hrun⟩ := cminxMain_ran h
  obtain ⟨d, hd⟩ := hout files vals filters hm
  have hs : (walkCfgOfSettings vals (aggCfgOfSettings vals f1 f2 f3)).toStdout = false :=
    congrArg Option.isNone hd
  obtain rfl : r = (runMain _ _ {}).1 := congrArg Prod.fst hrun
  exact C18_file_mode_silent_runMain hs _ _

/-- a command line argparse rejects documents nothing -/
theorem CMain_usage {argv : List Str} (h : parseArgv argv {} = none) (sfile : Str → Source) (user defaults : Source)
    (world : Str → World) (f1 f2 f3 : Str → Str) :
    (match cminxMain argv sfile user defaults world f1 f2 f3 with | .usage => true | _ => false) = true := by
  unfold cminxMain mainSettings
  rw [h]

/-- a successful resolution lists the options of the table, in the table's order -/
theorem C16_resolveAll_keys (sources : List Source) (vals : Vals) (h : resolveAll sources = .ok vals) :
    vals.map (·.1) = optionTable.map (·.1) := by
  rw [resolveAll_ok h, List.map_map]
  rfl

/-- what the lower layers read from the settings object is the value in effect -/
theorem C16_vals_get (sources : List Source) (vals : Vals) (h : resolveAll sources = .ok vals) (k : String) (ty : CType)
    (hk : (lit k, ty) ∈ optionTable) : Vals.get vals k = effective sources (lit k) := by
  rw [Vals.get, resolveAll_ok h, lookup_map_of_mem _ hk]
  rfl

/-- … for a run of the whole program: the value in effect over command line, `-s` file, user file and defaults -/
theorem mainSettings_get {argv : List Str} {sfile : Str → Source} {user defaults : Source}
    {files : List Str} {vals : Vals} {filters : List CVal} {p : Parsed}
    (h : mainSettings argv sfile user defaults = some (.ok (files, vals, filters))) (hp : parseArgv argv {} = some p)
    {k : String} {ty : CType} (hk : (lit k, ty) ∈ optionTable) :
    Vals.get vals k =
      effective [cliSource p, (match p.settings with | some f => sfile f | none => []), user, defaults] (lit k) :=
  C16_vals_get _ _ (mainSettings_ok h hp).2.1 k ty hk

/-- `-r` on the command line makes the walk recursive, whatever the files say -/
theorem CMain_recursive_from_argv (argv : List Str) (sfile : Str → Source) (user defaults : Source)
    (files : List Str) (vals : Vals) (filters : List CVal)
    (h : mainSettings argv sfile user defaults = some (.ok (files, vals, filters)))
    (p : Parsed) (hp : parseArgv argv {} = some p) (hr : p.recursive = true) (agg : Cfg) :
    (walkCfgOfSettings vals agg).recursive = true := by
  have hg := mainSettings_get h hp optionTable_recursive
  rw [C16_cli_recursive_wins p hr] at hg
  simp [walkCfgOfSettings, Vals.bool, hg]

/-- … and without `-r` the walk is recursive iff the highest-priority *file* that sets `input.recursive` says so -/
theorem CMain_recursive_from_files (argv : List Str) (sfile : Str → Source) (user defaults : Source)
    (files : List Str) (vals : Vals) (filters : List CVal)
    (h : mainSettings argv sfile user defaults = some (.ok (files, vals, filters)))
    (p : Parsed) (hp : parseArgv argv {} = some p) (hr : p.recursive = false) (agg : Cfg) (b : Bool)
    (he : effective [(match p.settings with | some f => sfile f | none => []), user, defaults] (lit "input.recursive") = some (.bool b)) :
    (walkCfgOfSettings vals agg).recursive = b := by
  have hg := mainSettings_get h hp optionTable_recursive
  rw [C16_cli_recursive_absent p hr] at hg
  simp [walkCfgOfSettings, Vals.bool, hg.trans he]

theorem mem_patternStrs {filters : List CVal} {n : Str} (h : CVal.str n ∈ filters) : n ∈ patternStrs filters := by
  unfold patternStrs
  exact List.mem_filterMap.mpr ⟨.str n, h, rfl⟩

/-- "regardless of which source supplied the pattern": a pattern given with `-e`, in the `-s` file or in the user file is among the patterns
    the run compiles -/
theorem CMain_pattern_from_any_source (argv : List Str) (sfile : Str → Source) (user defaults : Source)
    (files : List Str) (vals : Vals) (filters : List CVal)
    (h : mainSettings argv sfile user defaults = some (.ok (files, vals, filters)))
    (p : Parsed) (hp : parseArgv argv {} = some p) (n : Str)
    (hsrc : n ∈ p.excludes ∨
      (∃ l, (match p.settings with | some f => sfile f | none => []).get filtersKey = some (.list l) ∧ CVal.str n ∈ l) ∨
      (∃ l, user.get filtersKey = some (.list l) ∧ CVal.str n ∈ l)) :
    n ∈ patternStrs filters := by
  rw [(mainSettings_ok h hp).2.2]
  apply mem_patternStrs
  rcases hsrc with hcli | ⟨l, hl, hv⟩ | ⟨l, hl, hv⟩
  · refine allContents_mem (src := cliSource p) List.mem_cons_self ?_ (List.mem_map_of_mem hcli)
    rw [cliSource_get_filters p, if_neg (by simpa using List.ne_nil_of_mem hcli)]
  · exact allContents_mem (List.mem_cons_of_mem _ List.mem_cons_self) hl hv
  · exact allContents_mem (List.mem_cons_of_mem _ (List.mem_cons_of_mem _ List.mem_cons_self)) hl hv

/-- C15 at the level of the whole program, for bare names: whichever source supplied the name, an entry of the walk is excluded iff its
    absolute path has a component of one of the names — directories (not descended into) and files alike, for every input of the command line -/
theorem CMain_bare_names_exclude_iff (filters : List CVal) (cs : List Glob.Compiled)
    (hc : Glob.compileAll (patternStrs filters) = .ok cs) (hpl : ∀ q ∈ patternStrs filters, Glob.Plain q)
    (w : World) (habs : w.absPath ≠ []) (rel : List Str) (hp : Glob.PathOk (w.absPath ++ rel)) (isDir : Bool) :
    (mainInputOf cs w).excl rel isDir = (patternStrs filters).any (fun n => decide (n ∈ w.absPath ++ rel)) :=
  Glob.exclOf_bare_eq (patternStrs filters) hpl w.absPath rel hp habs cs hc isDir

end Cminx
