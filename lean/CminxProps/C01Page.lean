import CminxProps.C07
import CminxProps.C05
import CminxProps.C01
import CminxLemmas.SpecLemmas
/-!
# C01 — doccomment text reaches the page, inside its own entry (composition)

`C01.lean` proves the two ends: cleaning a doccomment returns its body lines verbatim (`C01_clean_canonical`), and a
paragraph is rendered line for line behind the indentation of the writer that holds it (`C01_paragraph_lines`).
This file closes the gap between the two, by composition of what is already proved:

* the cleaned text of an item's doccomment is the `doc` field of the entry the specification produces *for that
  item* (`Item.spec`, `CminxModel/Spec.lean`; per-kind equations in `CminxLemmas/SpecEq.lean`) and of no other
  entry (`C01_not_elsewhere`, `C01_doc_local`);
* every entry kind renders its `doc` field as a paragraph in the body of its own directive (`C01_entry_doc_lines`),
  members and attributes of a class one level deeper (`C01_class_members`): `Entry.Shows` names both;
* in the line view of the page (`C07_render_tlines`, `C07_page_lines`) the lines of every text an entry shows are a
  contiguous block inside the entry's directive, each line prefixed by the indentation of its depth and otherwise
  unchanged (`C01_block_in_entry`);
* by the central chain `T_roundtrip`/`T_agg` this is what `pipeline` writes for the printed module, for every entry of
  the module (`C01_page_block`); for a canonical doccomment the lines are its body lines (`C01_pipeline_item`,
  `C01_pipeline_member`, `C01_pipeline_module`).
-/
namespace Cminx

open C01

def Entry.docOf : Entry → Str
  | .module _ doc => doc
  | .func _ _ doc _ _ => doc
  | .var _ doc _ _ => doc
  | .opt _ doc _ _ => doc
  | .generic _ doc _ => doc
  | .ctest _ doc _ => doc
  | .test _ _ doc _ _ _ => doc
  | .cls _ doc _ _ _ _ _ => doc

/-- the entry is rendered with a doc paragraph: every entry except a module entry whose doc is empty
    (`if len(self.doc) > 0` in `ModuleDocumentation.process`) -/
def Entry.hasDocPara : Entry → Bool
  | .module _ doc => !doc.isEmpty
  | _ => true

def Entry.argOf : Entry → Str
  | .module name _ => name
  | .func _ name _ params kwargs => signature name (params ++ (if kwargs then [lit "**kwargs"] else []))
  | .var name _ _ _ => name
  | .opt name _ _ _ => name
  | .generic name _ args => signature name args
  | .ctest name _ params => signature name params
  | .test _ name _ expectFail _ _ => signature name [if expectFail then lit "EXPECTFAIL" else []]
  | .cls name _ _ _ _ _ _ => name

/-- the heading line of an entry's directive at column 0: `.. kind:: argument` -/
def Entry.heading (e : Entry) : Str := lit ".. " ++ e.dirName ++ lit ":: " ++ e.argOf

/-- the doccomment attached to an item's command (a dangling doccomment is attached to nothing) -/
def Item.doc? : Item → Option DocC
  | .cmd d _ => d
  | .block d _ _ _ => d
  | .decl d _ _ _ _ => d
  | .dangling _ => none

def Item.withDoc (d' : DocC) : Item → Item
  | .cmd _ call => .cmd (some d') call
  | .block _ o body c => .block (some d') o body c
  | .decl _ d impl body c => .decl (some d') d impl body c
  | .dangling d => .dangling d

/-- the item kinds whose own entry goes to the top-level list `documented`: every single command except
    `cpp_attr` (goes into its class) and `cmake_parse_arguments` (never documented), every block
    (function, macro, class, `if`/`foreach`/`while`), and `ct_add_test`/`ct_add_section` declarations;
    not `cpp_member`/`cpp_constructor` declarations (they go into their class) -/
def Item.TopKind : Item → Prop
  | .cmd _ call => call.lname ≠ lit "cpp_attr" ∧ call.lname ≠ lit "cmake_parse_arguments"
  | .block .. => True
  | .decl _ d _ _ _ => d.lname = lit "ct_add_test" ∨ d.lname = lit "ct_add_section"
  | .dangling _ => False

namespace C01

/-- a doccomment in the prescribed form (`DocC.Canonical` of `C04.lean`): `#`-led body lines, LF line ends, nothing
    after `#[[[` on the opening line, indentation of blanks and tabs, no line break inside a line text -/
structure Canonical (d : DocC) : Prop where
  leader : d.leader = true
  lf : d.crlf = false
  plain : d.openSuffix = []
  ind : IndOk d.ind
  lines : ∀ t ∈ d.lines, NoNl t

end C01

instance C01.Canonical.decidable (d : DocC) : Decidable (C01.Canonical d) :=
  decidable_of_iff (d.leader = true ∧ d.crlf = false ∧ d.openSuffix = [] ∧ IndOk d.ind ∧ ∀ t ∈ d.lines, NoNl t)
    ⟨fun ⟨a, b, c, e, f⟩ => ⟨a, b, c, e, f⟩, fun ⟨a, b, c, e, f⟩ => ⟨a, b, c, e, f⟩⟩

/-- Every entry is one directive, and its doc text is a paragraph in the body of that directive — the first
    element of the body or the second (after the macro note, the option note, the warning of a generic/test entry or
    the `Bases:` line of a class).  A module entry with empty doc has no paragraph. -/
theorem C01_entry_doc_lines (e : Entry) (h : e.hasDocPara = true) :
    ∃ pre post, e.toElem = .directive e.dirName [e.argOf] [] (pre ++ Elem.para e.docOf :: post) ∧ pre.length ≤ 1 := by
  cases e with
  | module name doc =>
    simp only [Entry.hasDocPara, Bool.not_eq_eq_eq_not, Bool.not_true] at h
    exact ⟨[], [], by simp [Entry.toElem, Entry.dirName, Entry.docOf, Entry.argOf, h], by simp⟩
  | func isMacro name doc params kwargs =>
    exact ⟨if isMacro then [Elem.directive (lit "note") [macroNote] [] []] else [], [],
      by simp [Entry.toElem, Entry.dirName, Entry.docOf, Entry.argOf], by split <;> simp⟩
  | var name doc ty value => exact ⟨[], _, rfl, by simp⟩
  | opt name doc help dflt => exact ⟨[_], _, rfl, by simp⟩
  | generic name doc args => exact ⟨[_], _, rfl, by simp⟩
  | ctest name doc params => exact ⟨[_], _, rfl, by simp⟩
  | test isSection name doc expectFail params isMacro => exact ⟨[_], _, rfl, by simp⟩
  | cls name doc supers inner ctors members attrs =>
    -- `post` is whatever follows the doc paragraph once the body is associated to the right
    refine ⟨if supers.isEmpty then [] else [?bases], ?post, ?eq, ?_⟩
    case eq =>
      simp only [Entry.toElem, List.append_assoc, List.singleton_append]
      rfl
    split <;> simp

theorem C01_entry_doc_mem (e : Entry) (h : e.hasDocPara = true) :
    ∃ body, e.toElem = .directive e.dirName [e.argOf] [] body ∧ Elem.para e.docOf ∈ body := by
  obtain ⟨pre, post, he, _⟩ := C01_entry_doc_lines e h
  exact ⟨_, he, by simp⟩

/-- a method (member or constructor) is one `py:method` directive holding its doc as a paragraph, first in the body
    or second after the macro note -/
theorem C01_method_doc_lines (m : Method) :
    ∃ arg pre post, m.toElem = .directive (lit "py:method") [arg] [] (pre ++ Elem.para m.doc :: post) ∧
      pre.length ≤ 1 := by
  refine ⟨m.name ++ '(' :: ((joinWith [',', ' '] m.params ++
      (if m.paramTypes.contains (lit "args") then lit "[, ...]" else [])) ++ [')']),
    if m.isMacro then [Elem.directive (lit "note") [methodMacroNote] [] []] else [],
    methodFields m.doc m.paramTypes m.params, ?_, ?_⟩
  · simp [Method.toElem]
  · split <;> simp

/-- an attribute is one `py:attribute` directive whose body is its doc paragraph -/
theorem C01_attr_doc_lines (a : Attr) :
    ∃ opts, a.toElem = .directive (lit "py:attribute") [a.name] opts [Elem.para a.doc] :=
  ⟨_, rfl⟩

theorem C01_section_mem {x : Elem} {xs : List Elem} (h : x ∈ xs) (title : Str) : x ∈ section? title xs := by
  unfold section?
  cases xs with
  | nil => simp at h
  | cons y ys => simp only [List.isEmpty_cons, Bool.false_eq_true, if_false]; exact List.mem_cons_of_mem _ h

/-- the directives of a class's constructors, members and attributes are elements of the body of the class's
    directive (and so is the class's own doc paragraph) -/
theorem C01_class_members (name doc : Str) (supers inner : List Str) (ctors members : List Method) (attrs : List Attr) :
    ∃ body, (Entry.cls name doc supers inner ctors members attrs).toElem = .directive (lit "py:class") [name] [] body ∧
      Elem.para doc ∈ body ∧ (∀ m ∈ ctors, m.toElem ∈ body) ∧ (∀ m ∈ members, m.toElem ∈ body) ∧
      (∀ a ∈ attrs, a.toElem ∈ body) := by
  refine ⟨_, rfl, by simp, fun m hm => ?_, fun m hm => ?_, fun a ha => ?_⟩
  · simp [C01_section_mem (List.mem_map_of_mem hm)]
  · simp [C01_section_mem (List.mem_map_of_mem hm)]
  · simp [C01_section_mem (List.mem_map_of_mem ha)]

/-- entry `e` shows text `t` as a paragraph `k` levels below its directive: its own doc, or (`k = 2`) the doc of a
    constructor, member or attribute of a class -/
inductive Entry.Shows : Entry → Nat → Str → Prop
  | own {e : Entry} : e.hasDocPara = true → Shows e 1 e.docOf
  | ctor {name doc supers inner ctors members attrs} {m : Method} :
      m ∈ ctors → Shows (.cls name doc supers inner ctors members attrs) 2 m.doc
  | member {name doc supers inner ctors members attrs} {m : Method} :
      m ∈ members → Shows (.cls name doc supers inner ctors members attrs) 2 m.doc
  | attr {name doc supers inner ctors members attrs} {a : Attr} :
      a ∈ attrs → Shows (.cls name doc supers inner ctors members attrs) 2 a.doc

theorem C01_map_snd_para (t : Str) : (shiftT (Elem.para t).tlines).map (·.2) = (splitNl t).map (indent 1 ++ ·) := by
  rw [map_snd_shiftT, C01_place_para]

theorem C01_child_lines (d : Nat) (name : Str) (args : List Str) (opts : List (Str × Str)) (body : List Elem)
    (hs : SingleLine (.directive name args opts body)) (x : Elem) (hx : x ∈ body) :
    x.tlines.map (place (d + 1)) <:+: splitNl ((Elem.directive name args opts body).render d) := by
  rw [C07_render_tlines _ d hs, ← C07_place_shift]
  exact (C01_tlines_child (y := .directive name args opts body) hx).map _

theorem Entry.toElem_eq (e : Entry) : e.toElem = .directive e.dirName [e.argOf] [] e.toElem.children := by
  cases e <;> rfl

theorem Entry.Shows.in_child {e : Entry} {k : Nat} {t : Str} (h : e.Shows k t) :
    ∃ x ∈ e.toElem.children, (splitNl t).map (indent k ++ ·) <:+: x.tlines.map (place 1) := by
  have para {x : Elem} {t : Str} (h : .para t ∈ x.children) :
      (splitNl t).map (indent 2 ++ ·) <:+: x.tlines.map (place 1) := by
    rw [← C01_place_para, ← C07_place_shift]
    exact (C01_tlines_child h).map _
  have meth (m : Method) : (splitNl m.doc).map (indent 2 ++ ·) <:+: m.toElem.tlines.map (place 1) := by
    obtain ⟨_, _, _, hm, _⟩ := C01_method_doc_lines m
    exact para (by rw [hm]; simp [Elem.children])
  cases h with
  | own h =>
    obtain ⟨_, he, hmem⟩ := C01_entry_doc_mem e h
    exact ⟨_, by rw [he]; exact hmem, by rw [C01_place_para]; exact List.infix_refl _⟩
  | @ctor name doc supers inner ctors members attrs m h =>
    obtain ⟨_, he, _, hc, _⟩ := C01_class_members name doc supers inner ctors members attrs
    exact ⟨_, by rw [he]; exact hc m h, meth m⟩
  | @member name doc supers inner ctors members attrs m h =>
    obtain ⟨_, he, _, _, hm, _⟩ := C01_class_members name doc supers inner ctors members attrs
    exact ⟨_, by rw [he]; exact hm m h, meth m⟩
  | @attr name doc supers inner ctors members attrs a h =>
    obtain ⟨_, he, _, _, _, ha⟩ := C01_class_members name doc supers inner ctors members attrs
    obtain ⟨_, ha'⟩ := C01_attr_doc_lines a
    exact ⟨_, by rw [he]; exact ha a h, para (by rw [ha']; simp [Elem.children])⟩

/-- the lines below the heading line of a directive at column 0: blank or indented by three columns or more, i.e.
    they all belong to the directive's content block -/
def InDirective (rest : List Str) : Prop := ∀ l ∈ rest, l = [] ∨ (indent 1).isPrefixOf l = true

/-- **The doc blocks of an entry.**  An entry rendered as a top-level directive is: a blank line, the heading line
    `.. kind:: argument`, and then the directive's content `rest` (every line blank or indented), in which the lines
    of every doc text the entry shows occur as one contiguous block, in order, each line prefixed by the indentation
    of its depth and otherwise unchanged. -/
theorem C01_block_in_entry (e : Entry) (h : e.OneLine) :
    ∃ rest, splitNl (e.toElem.render 0) = [] :: e.heading :: rest ∧ InDirective rest ∧
      ∀ k t, e.Shows k t → (splitNl t).map (indent k ++ ·) <:+: rest := by
  have hs := C07_entry_single_line e h
  rw [e.toElem_eq] at hs ⊢
  obtain ⟨hl, _, hin⟩ := C07_entry_block 0 e.dirName [e.argOf] [] _ hs
  refine ⟨_, hl.trans (by simp [indent_zero, joinWith, Entry.heading]), hin, fun k t hk => ?_⟩
  obtain ⟨x, hx, hi⟩ := hk.in_child
  rw [C07_renderElems_tlines _ 1 hs.2.2.2]
  exact hi.trans (((C01_tlines_mem hx).map (place 1)).trans (List.suffix_append _ _).isInfix)

/-- in particular the entry's own doc text occurs in the entry's rendering -/
theorem C01_block_in_entry' (e : Entry) (h : e.OneLine) (hd : e.hasDocPara = true) :
    (splitNl e.docOf).map (indent 1 ++ ·) <:+: splitNl (e.toElem.render 0) := by
  obtain ⟨rest, hl, _, hi⟩ := C01_block_in_entry e h
  rw [hl]
  exact List.infix_cons (List.infix_cons (hi _ _ (.own hd)))

/-- **Member, constructor and attribute docs.**  Inside the rendering of a class entry, after the class's heading
    line, the doc text of every constructor, member and attribute occurs as a contiguous block of lines, each line
    prefixed by six columns (the class directive's and the member directive's indentation). -/
theorem C01_block_in_class (name doc : Str) (supers inner : List Str) (ctors members : List Method) (attrs : List Attr)
    (h : (Entry.cls name doc supers inner ctors members attrs).OneLine) :
    ∃ rest, splitNl ((Entry.cls name doc supers inner ctors members attrs).toElem.render 0) =
        [] :: (lit ".. " ++ lit "py:class" ++ lit ":: " ++ name) :: rest ∧ InDirective rest ∧
      (splitNl doc).map (indent 1 ++ ·) <:+: rest ∧
      (∀ m ∈ ctors, (splitNl m.doc).map (indent 2 ++ ·) <:+: rest) ∧
      (∀ m ∈ members, (splitNl m.doc).map (indent 2 ++ ·) <:+: rest) ∧
      (∀ a ∈ attrs, (splitNl a.doc).map (indent 2 ++ ·) <:+: rest) := by
  obtain ⟨rest, hl, hi, hs⟩ := C01_block_in_entry _ h
  exact ⟨rest, hl, hi, hs _ _ (.own rfl), fun _ hm => hs _ _ (.ctor hm), fun _ hm => hs _ _ (.member hm),
    fun _ ha => hs _ _ (.attr ha)⟩

/-- the cleaned text of a canonical doccomment is its body lines joined by `'\n'`, plus the final line break that the
    closing `#]]` line leaves -/
theorem C01_canonical_doc (d : DocC) (hc : Canonical d) : docTextOf (some d) = joinNl (d.lines ++ [[]]) :=
  C01_clean_canonical d hc.leader hc.lf hc.plain hc.ind hc.lines

theorem C01_canonical_doc_lines (d : DocC) (hc : Canonical d) : splitNl (docTextOf (some d)) = d.lines ++ [[]] :=
  C01_clean_lines d hc.leader hc.lf hc.plain hc.ind hc.lines

theorem C01_hasDocPara_of_not_module {e : Entry} (h : isModule e = false) : e.hasDocPara = true := by
  cases e with
  | module => cases h
  | _ => rfl

/-- **An entry that shows the cleaned text of a canonical doccomment** `k` levels down: after the heading line of
    its directive the page has the doccomment's body lines — verbatim, in order, each prefixed by the `3·k` columns
    of indentation — followed by the (indented) empty line. -/
theorem C01_canonical_entry (e : Entry) (d : DocC) (hc : Canonical d) {k : Nat} (hs : e.Shows k (docTextOf (some d)))
    (h : e.OneLine) :
    ∃ rest, splitNl (e.toElem.render 0) = [] :: e.heading :: rest ∧ InDirective rest ∧
      (d.lines ++ [[]]).map (indent k ++ ·) <:+: rest := by
  obtain ⟨rest, hl, hb, hi⟩ := C01_block_in_entry e h
  exact ⟨rest, hl, hb, C01_canonical_doc_lines d hc ▸ hi _ _ hs⟩

/-- the same for a constructor/member/attribute doc inside a class entry, at depth 2 -/
theorem C01_canonical_in_class (name doc : Str) (supers inner : List Str) (ctors members : List Method)
    (attrs : List Attr) (h : (Entry.cls name doc supers inner ctors members attrs).OneLine) (d : DocC) (hc : Canonical d)
    (hmem : (∃ m ∈ ctors, m.doc = docTextOf (some d)) ∨ (∃ m ∈ members, m.doc = docTextOf (some d)) ∨
      (∃ a ∈ attrs, a.doc = docTextOf (some d))) :
    ∃ rest, splitNl ((Entry.cls name doc supers inner ctors members attrs).toElem.render 0) =
        [] :: (lit ".. " ++ lit "py:class" ++ lit ":: " ++ name) :: rest ∧ InDirective rest ∧
      (d.lines ++ [[]]).map (indent 2 ++ ·) <:+: rest := by
  refine C01_canonical_entry _ d hc ?_ h
  rcases hmem with ⟨m, hm, e⟩ | ⟨m, hm, e⟩ | ⟨a, ha, e⟩
  · exact e ▸ .ctor hm
  · exact e ▸ .member hm
  · exact e ▸ .attr ha

/-! ### the entry the specification produces for a documented item, per kind (any configuration, any class context)

`cfg.stripFn`/`cfg.stripMacro`/`cfg.stripMember` are the parameter-name strip functions, `cfg.trigger` the `**kwargs`
trigger text.  In every equation the doc field is `joinNl (d.lines ++ [[]])`: the body lines of the doccomment. -/

theorem C01_canonical_function (cfg : Cfg) (ctx : ClsCtx) (d : DocC) (o : Call) (body : List Item) (c : Call)
    (hc : Canonical d) (hn : o.lname = lit "function") :
    ((Item.block (some d) o body c).spec cfg ctx).top =
      .func false (o.singles.headD []) (joinNl (d.lines ++ [[]])) ((o.singles.drop 1).map cfg.stripFn)
        (isInfix cfg.trigger (joinNl (d.lines ++ [[]])) || itemsCpaDirect body) :: (itemsSpec cfg ctx body).top := by
  rw [spec_block_def cfg ctx _ o body c false hn, ← C01_canonical_doc d hc]
  simp [defEntry]

theorem C01_canonical_macro (cfg : Cfg) (ctx : ClsCtx) (d : DocC) (o : Call) (body : List Item) (c : Call)
    (hc : Canonical d) (hn : o.lname = lit "macro") :
    ((Item.block (some d) o body c).spec cfg ctx).top =
      .func true (o.singles.headD []) (joinNl (d.lines ++ [[]])) ((o.singles.drop 1).map cfg.stripMacro)
        (isInfix cfg.trigger (joinNl (d.lines ++ [[]])) || itemsCpaDirect body) :: (itemsSpec cfg ctx body).top := by
  rw [spec_block_def cfg ctx _ o body c true hn, ← C01_canonical_doc d hc]
  simp [defEntry]

theorem C01_canonical_class (cfg : Cfg) (ctx : ClsCtx) (d : DocC) (o : Call) (body : List Item) (c : Call)
    (hc : Canonical d) (hn : o.lname = lit "cpp_class") :
    ((Item.block (some d) o body c).spec cfg ctx).top =
      .cls (o.singles.headD []) (joinNl (d.lines ++ [[]])) (o.singles.drop 1) (itemsSpec cfg .shown body).inner
        (itemsSpec cfg .shown body).ctors (itemsSpec cfg .shown body).members (itemsSpec cfg .shown body).attrs ::
        (itemsSpec cfg .shown body).top := by
  rw [spec_block_class cfg ctx _ o body c hn, ← C01_canonical_doc d hc]
  rfl

/-- a documented `if`/`foreach`/`while` (any block that is not a definition or a class) -/
theorem C01_canonical_block_generic (cfg : Cfg) (ctx : ClsCtx) (d : DocC) (o : Call) (body : List Item) (c : Call)
    (hc : Canonical d) (h1 : o.lname ≠ lit "function") (h2 : o.lname ≠ lit "macro") (h3 : o.lname ≠ lit "cpp_class") :
    ((Item.block (some d) o body c).spec cfg ctx).top =
      .generic o.lname (joinNl (d.lines ++ [[]])) (argTexts o.toCmd.args) :: (itemsSpec cfg ctx body).top := by
  rw [spec_block_other cfg ctx _ o body c h1 h2 h3, ← C01_canonical_doc d hc]
  simp

theorem C01_canonical_set (cfg : Cfg) (ctx : ClsCtx) (d : DocC) (call : Call) (name : Str) (vals : List Str)
    (hc : Canonical d) (hn : call.lname = lit "set") (hs : call.singles = name :: vals) :
    ((Item.cmd (some d) call).spec cfg ctx).top =
      [.var name (joinNl (d.lines ++ [[]]))
        (match vals with | [] => .unset | [_] => .string | _ => .list)
        (match vals with | [] => none | [v] => some (unquote v) | vs => some (joinWith [' '] vs))] := by
  rw [spec_cmd_set cfg ctx _ call hn, ← C01_canonical_doc d hc]
  match vals, hs with
  | [], hs | [_], hs | _ :: _ :: _, hs => simp [hs]

theorem C01_canonical_option (cfg : Cfg) (ctx : ClsCtx) (d : DocC) (call : Call)
    (hc : Canonical d) (hn : call.lname = lit "option") :
    ((Item.cmd (some d) call).spec cfg ctx).top =
      [.opt (call.singles.headD []) (joinNl (d.lines ++ [[]])) (call.singles.getD 1 []) call.singles[2]?] := by
  rw [spec_cmd_option cfg ctx _ call hn, ← C01_canonical_doc d hc]
  simp

theorem C01_canonical_add_test (cfg : Cfg) (ctx : ClsCtx) (d : DocC) (call : Call)
    (hc : Canonical d) (hn : call.lname = lit "add_test") :
    ((Item.cmd (some d) call).spec cfg ctx).top =
      [.ctest (nameOf call.allTexts).1 (joinNl (d.lines ++ [[]])) (ctestParams call.allTexts)] := by
  rw [spec_cmd_add_test cfg ctx _ call hn, ← C01_canonical_doc d hc]
  rfl

/-- any other documented single command -/
theorem C01_canonical_generic (cfg : Cfg) (ctx : ClsCtx) (d : DocC) (call : Call) (hc : Canonical d)
    (h1 : call.lname ≠ lit "set") (h2 : call.lname ≠ lit "option") (h3 : call.lname ≠ lit "add_test")
    (h4 : call.lname ≠ lit "cpp_attr") (h5 : call.lname ≠ lit "cmake_parse_arguments") :
    ((Item.cmd (some d) call).spec cfg ctx).top =
      [.generic call.lname (joinNl (d.lines ++ [[]])) (argTexts call.toCmd.args)] := by
  rw [spec_cmd_generic cfg ctx _ call h1 h2 h3 h4 h5, ← C01_canonical_doc d hc]
  simp

theorem C01_canonical_test (cfg : Cfg) (ctx : ClsCtx) (d : DocC) (dc impl : Call) (body : List Item) (c : Call)
    (hc : Canonical d) (hn : dc.lname = lit "ct_add_test") :
    ((Item.decl (some d) dc impl body c).spec cfg ctx).top =
      .test false (nameOf dc.singles).1 (joinNl (d.lines ++ [[]])) (dc.singles.contains (lit "EXPECTFAIL"))
        (impl.singles.drop 2) (impl.lname = lit "macro") :: (itemsSpec cfg ctx body).top := by
  rw [spec_decl_test cfg ctx _ dc impl body c false hn, ← C01_canonical_doc d hc]
  simp

theorem C01_canonical_section (cfg : Cfg) (ctx : ClsCtx) (d : DocC) (dc impl : Call) (body : List Item) (c : Call)
    (hc : Canonical d) (hn : dc.lname = lit "ct_add_section") :
    ((Item.decl (some d) dc impl body c).spec cfg ctx).top =
      .test true (nameOf dc.singles).1 (joinNl (d.lines ++ [[]])) (dc.singles.contains (lit "EXPECTFAIL"))
        (impl.singles.drop 2) (impl.lname = lit "macro") :: (itemsSpec cfg ctx body).top := by
  rw [spec_decl_test cfg ctx _ dc impl body c true hn, ← C01_canonical_doc d hc]
  simp

/-- a documented `cpp_member` declaration directly in the body of a shown class: one element of the class's method
    list, whose doc is the doccomment's body lines -/
theorem C01_canonical_member (cfg : Cfg) (d : DocC) (dc impl : Call) (body : List Item) (c : Call)
    (hc : Canonical d) (hn : dc.lname = lit "cpp_member") :
    ((Item.decl (some d) dc impl body c).spec cfg .shown).members =
      methodOf cfg (some d) dc impl false :: (itemsSpec cfg .shown body).members ∧
    (methodOf cfg (some d) dc impl false).doc = joinNl (d.lines ++ [[]]) := by
  rw [spec_decl_member cfg .shown _ dc impl body c false hn]
  exact ⟨by simp, (methodOf_doc ..).trans (C01_canonical_doc d hc)⟩

theorem C01_canonical_ctor (cfg : Cfg) (d : DocC) (dc impl : Call) (body : List Item) (c : Call)
    (hc : Canonical d) (hn : dc.lname = lit "cpp_constructor") :
    ((Item.decl (some d) dc impl body c).spec cfg .shown).ctors =
      methodOf cfg (some d) dc impl true :: (itemsSpec cfg .shown body).ctors ∧
    (methodOf cfg (some d) dc impl true).doc = joinNl (d.lines ++ [[]]) := by
  rw [spec_decl_member cfg .shown _ dc impl body c true hn]
  exact ⟨by simp, (methodOf_doc ..).trans (C01_canonical_doc d hc)⟩

theorem C01_canonical_attr (cfg : Cfg) (d : DocC) (call : Call) (hc : Canonical d) (hn : call.lname = lit "cpp_attr") :
    ((Item.cmd (some d) call).spec cfg .shown).attrs =
      [{ name := call.singles.getD 1 [], doc := joinNl (d.lines ++ [[]]), parentClass := call.singles.headD [],
         dflt := call.singles[2]? }] := by
  rw [spec_cmd_attr cfg .shown _ call hn, ← C01_canonical_doc d hc]
  simp

theorem Contrib.single_append (e : Entry) (b : Contrib) :
    ({ top := [e] } : Contrib) ++ b = { b with top := e :: b.top } := rfl

theorem C01_withDoc_self (it : Item) (d : DocC) (hd : it.doc? = some d) : it.withDoc d = it := by
  cases it <;> simp_all [Item.doc?, Item.withDoc]

/-- For an item of a top-level kind, documented: the entries it appends to `documented` are `f text :: rest`, where
    `text` is the cleaned text of its doccomment, `f text` is an entry (not a module entry) whose doc field is `text`,
    and neither `rest` (the entries of the commands in its body) nor what the item contributes to an enclosing class
    depends on the doccomment at all. -/
theorem C01_item_entry_core (cfg : Cfg) (ctx : ClsCtx) (it : Item) (hk : it.TopKind) :
    ∃ (f : Str → Entry) (rest : List Entry) (cp : Contrib), (∀ t, (f t).docOf = t ∧ isModule (f t) = false) ∧
      ∀ d' : DocC, (it.withDoc d').spec cfg ctx =
        { cp with top := f (docTextOf (some d')) :: rest } := by
  cases it with
  | cmd doc call =>
    obtain ⟨h4, h5⟩ := hk
    by_cases h1 : call.lname = lit "set"
    · refine ⟨fun t => match call.singles with
            | [name] => .var name t .unset none
            | [name, v] => .var name t .string (some (unquote v))
            | name :: vs => .var name t .list (some (joinWith [' '] vs))
            | [] => .var [] t .unset none, [], {}, fun t => ?_, fun d' => ?_⟩
      · dsimp only
        split <;> exact ⟨rfl, rfl⟩
      · rcases hs : call.singles with _ | ⟨a, _ | ⟨b, _ | ⟨c, r⟩⟩⟩ <;>
          simp [Item.withDoc, spec_cmd_set cfg ctx _ call h1, hs]
    · by_cases h2 : call.lname = lit "option"
      · exact ⟨fun t => .opt (call.singles.headD []) t (call.singles.getD 1 []) call.singles[2]?, [], {},
          fun _ => ⟨rfl, rfl⟩, fun d' => by simp [Item.withDoc, spec_cmd_option cfg ctx _ call h2]⟩
      · by_cases h3 : call.lname = lit "add_test"
        · exact ⟨fun t => .ctest (nameOf call.allTexts).1 t (ctestParams call.allTexts), [], {},
            fun _ => ⟨rfl, rfl⟩, fun d' => by simp [Item.withDoc, spec_cmd_add_test cfg ctx _ call h3]⟩
        · exact ⟨fun t => .generic call.lname t (argTexts call.toCmd.args), [], {},
            fun _ => ⟨rfl, rfl⟩, fun d' => by simp [Item.withDoc, spec_cmd_generic cfg ctx _ call h1 h2 h3 h4 h5]⟩
  | block doc o body c =>
    by_cases h1 : o.lname = lit "function"
    · exact ⟨fun t => .func false (o.singles.headD []) t ((o.singles.drop 1).map cfg.stripFn)
          (isInfix cfg.trigger t || itemsCpaDirect body), (itemsSpec cfg ctx body).top, itemsSpec cfg ctx body,
        fun _ => ⟨rfl, rfl⟩, fun d' => by simp [Item.withDoc, spec_block_def cfg ctx _ o body c false h1, Contrib.single_append, defEntry]⟩
    · by_cases h2 : o.lname = lit "macro"
      · exact ⟨fun t => .func true (o.singles.headD []) t ((o.singles.drop 1).map cfg.stripMacro)
            (isInfix cfg.trigger t || itemsCpaDirect body), (itemsSpec cfg ctx body).top, itemsSpec cfg ctx body,
          fun _ => ⟨rfl, rfl⟩, fun d' => by simp [Item.withDoc, spec_block_def cfg ctx _ o body c true h2, Contrib.single_append, defEntry]⟩
      · by_cases h3 : o.lname = lit "cpp_class"
        · exact ⟨fun t => .cls (o.singles.headD []) t (o.singles.drop 1) (itemsSpec cfg .shown body).inner
              (itemsSpec cfg .shown body).ctors (itemsSpec cfg .shown body).members (itemsSpec cfg .shown body).attrs,
            (itemsSpec cfg .shown body).top, { inner := if ctx = .shown then [o.singles.headD []] else [] },
            fun _ => ⟨rfl, rfl⟩, fun d' => by simp [Item.withDoc, spec_block_class cfg ctx _ o body c h3]⟩
        · exact ⟨fun t => .generic o.lname t (argTexts o.toCmd.args), (itemsSpec cfg ctx body).top,
            itemsSpec cfg ctx body, fun _ => ⟨rfl, rfl⟩, fun d' => by
              simp [Item.withDoc, spec_block_other cfg ctx _ o body c h1 h2 h3, Contrib.single_append]⟩
  | decl doc dc impl body c =>
    have test : ∀ isSection : Bool, dc.lname = (if isSection then lit "ct_add_section" else lit "ct_add_test") →
        ∃ (f : Str → Entry) (rest : List Entry) (cp : Contrib), (∀ t, (f t).docOf = t ∧ isModule (f t) = false) ∧
          ∀ d' : DocC, ((Item.decl doc dc impl body c).withDoc d').spec cfg ctx =
            { cp with top := f (docTextOf (some d')) :: rest } := fun isSection hn =>
      ⟨fun t => .test isSection (nameOf dc.singles).1 t (dc.singles.contains (lit "EXPECTFAIL"))
          (impl.singles.drop 2) (impl.lname = lit "macro"), (itemsSpec cfg ctx body).top, itemsSpec cfg ctx body,
        fun _ => ⟨rfl, rfl⟩, fun d' => by
          simp [Item.withDoc, spec_decl_test cfg ctx _ dc impl body c isSection hn, Contrib.single_append]⟩
    rcases hk with hn | hn
    · exact test false hn
    · exact test true hn
  | dangling d => exact hk.elim

/-- **The entry of a documented item.**  A documented item of a top-level kind puts, as the first of the entries it
    contributes, an entry (not a module entry) whose doc field is the cleaned text of *its* doccomment. -/
theorem C01_item_entry (cfg : Cfg) (ctx : ClsCtx) (it : Item) (d : DocC) (hd : it.doc? = some d) (hk : it.TopKind) :
    ∃ e rest, (it.spec cfg ctx).top = e :: rest ∧ e.docOf = docTextOf (some d) ∧ isModule e = false := by
  obtain ⟨f, rest, cp, hf, h⟩ := C01_item_entry_core cfg ctx it hk
  have := h d
  rw [C01_withDoc_self it d hd] at this
  exact ⟨_, rest, by rw [this], (hf _).1, (hf _).2⟩

/-- for a canonical doccomment: the doc field is the body lines, and (if the entry's one-line strings are free of
    line breaks) the body lines stand in the entry's directive on the page -/
theorem C01_canonical_item (cfg : Cfg) (ctx : ClsCtx) (it : Item) (d : DocC) (hd : it.doc? = some d) (hk : it.TopKind)
    (hc : Canonical d) :
    ∃ e rest, (it.spec cfg ctx).top = e :: rest ∧ e.docOf = joinNl (d.lines ++ [[]]) ∧ isModule e = false ∧
      (e.OneLine → ∃ r, splitNl (e.toElem.render 0) = [] :: e.heading :: r ∧ InDirective r ∧
        (d.lines ++ [[]]).map (indent 1 ++ ·) <:+: r) := by
  obtain ⟨e, rest, ht, hdoc, hm⟩ := C01_item_entry cfg ctx it d hd hk
  exact ⟨e, rest, ht, hdoc.trans (C01_canonical_doc d hc), hm,
    C01_canonical_entry e d hc (hdoc ▸ .own (C01_hasDocPara_of_not_module hm))⟩

/-- The contribution of a list of items is the concatenation of the contributions of the items, in source order;
    an item's doccomment is read by `Item.spec` of that item only (`docTextOf doc` occurs in `Item.spec` for the
    item's own `doc` and nowhere else), so what the items before and after contribute does not depend on it. -/
theorem C01_not_elsewhere (cfg : Cfg) (ctx : ClsCtx) (pre post : List Item) (it : Item) :
    itemsSpec cfg ctx (pre ++ it :: post) = itemsSpec cfg ctx pre ++ it.spec cfg ctx ++ itemsSpec cfg ctx post ∧
    (itemsSpec cfg ctx (pre ++ it :: post)).top =
      (itemsSpec cfg ctx pre).top ++ (it.spec cfg ctx).top ++ (itemsSpec cfg ctx post).top :=
  ⟨by rw [itemsSpec_append, itemsSpec_cons, Contrib.append_assoc], itemsSpec_append_cons_top cfg ctx pre post it⟩

/-- Explicitly: replacing the item (in particular: its doccomment) changes exactly its own segment of the list —
    the same `before` and `after` serve for every item put in that position. -/
theorem C01_not_elsewhere' (cfg : Cfg) (ctx : ClsCtx) (pre post : List Item) :
    ∃ before after : List Entry, ∀ it : Item,
      (itemsSpec cfg ctx (pre ++ it :: post)).top = before ++ (it.spec cfg ctx).top ++ after :=
  ⟨_, _, fun it => (C01_not_elsewhere cfg ctx pre post it).2⟩

/-- **Changing a doccomment changes one entry.**  In a list of items, replacing the doccomment of a documented item of
    a top-level kind by any other doccomment changes the doc-dependent fields of that item's own entry and nothing
    else: all entries before it, all entries after it (including those of the commands in its body) and everything
    contributed to an enclosing class stay the same. -/
theorem C01_doc_local (cfg : Cfg) (ctx : ClsCtx) (pre post : List Item) (it : Item) (hk : it.TopKind) :
    ∃ (f : Str → Entry) (before after : List Entry), (∀ t, (f t).docOf = t) ∧
      ∀ d' : DocC, (itemsSpec cfg ctx (pre ++ it.withDoc d' :: post)).top =
        before ++ f (docTextOf (some d')) :: after := by
  obtain ⟨f, rest, cp, hf, h⟩ := C01_item_entry_core cfg ctx it hk
  refine ⟨f, (itemsSpec cfg ctx pre).top, rest ++ (itemsSpec cfg ctx post).top, fun t => (hf t).1, ?_⟩
  intro d'
  rw [(C01_not_elsewhere cfg ctx pre post _).2, h d']
  simp

/-- every documented entry (after the naming pass for module entries) is rendered on the page as a whole: the lines
    of its directive are a contiguous block of the page's lines -/
theorem C01_entry_on_page (hc title modName : Str) (docs : List Entry) (hm : '\n' ∉ modName)
    (hone : ∀ e ∈ docs, e.OneLine) (e : Entry) (he : e ∈ docs) :
    splitNl ((nameModule modName e).toElem.render 0) <:+: splitNl (processDocs hc title modName docs).render := by
  rw [C07_page_lines hc title modName docs hm hone]
  have hmem : nameModule modName e ∈ renderedDocs modName docs := by
    unfold renderedDocs
    apply List.mem_map_of_mem
    split
    · exact he
    · exact List.mem_cons_of_mem _ he
  have hs := C07_entry_single_line _ (C07_nameModule_one_line modName hm e (hone e he))
  rw [C07_render_tlines _ 0 hs, map_place_zero]
  exact ((C01_tlines_mem (List.mem_map_of_mem (f := Entry.toElem) hmem)).map _).trans (List.suffix_append _ _).isInfix

theorem C01_entries_mem (cfg : Cfg) (m : Module) (pre post : List Item) (it : Item)
    (h : m.items = pre ++ [it] ++ post) (e : Entry) (he : e ∈ (it.spec cfg .none).top) : e ∈ m.entries cfg := by
  obtain ⟨front, hf⟩ := Module.entries_of_items cfg (h.trans (List.append_cons pre it post).symm)
  rw [hf]
  exact List.mem_append_right _ (List.mem_append_left _ he)

/-- **Every doc text of every entry, on the page.**  `m` a valid, well-formed module (outside K1), `e` one of its
    entries: the pipeline succeeds on the printed module, and the page contains, as one contiguous block, the
    rendering of `e` (named, if it is an unnamed module entry): a blank line, the heading line of its directive, and
    the directive's content `rest`, in which every doc text the entry shows `k` levels down stands line for line
    behind `3·k` columns of indentation. -/
theorem C01_page_block (cfg : Cfg) (hc : Str) (hs : List Str) (title modName : Str) (m : Module)
    (hv : m.valid = true) (hwf : itemsWf false m.items = true)
    (hk1 : cfg.inclCppClass = true ∨ itemsHaveDocumentedClass m.items = false)
    (hone : ∀ e ∈ m.entries cfg, e.OneLine) (hm : '\n' ∉ modName) (e : Entry) (he : e ∈ m.entries cfg) :
    ∃ out rest, pipeline cfg (hc :: hs) title modName m.render = .ok out ∧
      ([] :: (nameModule modName e).heading :: rest) <:+: splitNl out ∧ InDirective rest ∧
      ∀ k t, (nameModule modName e).Shows k t → (splitNl t).map (indent k ++ ·) <:+: rest := by
  obtain ⟨rest, hl, hb, hi⟩ := C01_block_in_entry _ (C07_nameModule_one_line modName hm e (hone e he))
  exact ⟨_, rest, T_pipeline cfg hc hs title modName m hv hwf hk1,
    hl ▸ C01_entry_on_page hc title modName _ hm hone e he, hb, hi⟩

/-- **C01, end to end, any top-level kind.**  `m` a valid, well-formed module (outside K1); `it` one of its top-level
    items — a function, macro, class, `set`, `option`, `add_test`, any other command or block, a CMakeTest test or
    section — carrying the canonical doccomment `d`.  Then the pipeline succeeds on the printed module, and the
    page contains, as one contiguous block, the rendering of the entry `e` that the specification lists first for
    `it`: a blank line, the heading line of `e`'s directive, and the directive's content `rest`, in which the body
    lines of `d` stand verbatim, in order, each behind three columns of indentation, followed by the indented empty
    line.  Hypotheses `hone`/`hm` ("argument values contain no line breaks") are what allows reading lines off the
    page (`C07`). -/
theorem C01_pipeline_item (cfg : Cfg) (hc : Str) (hs : List Str) (title modName : Str) (m : Module)
    (hv : m.valid = true) (hwf : itemsWf false m.items = true)
    (hk1 : cfg.inclCppClass = true ∨ itemsHaveDocumentedClass m.items = false)
    (pre post : List Item) (it : Item) (d : DocC) (hitems : m.items = pre ++ [it] ++ post)
    (hd : it.doc? = some d) (hk : it.TopKind) (hcan : Canonical d)
    (hone : ∀ e ∈ m.entries cfg, e.OneLine) (hm : '\n' ∉ modName) :
    ∃ out e rest, pipeline cfg (hc :: hs) title modName m.render = .ok out ∧
      (it.spec cfg .none).top.head? = some e ∧ e.docOf = joinNl (d.lines ++ [[]]) ∧
      ([] :: e.heading :: rest) <:+: splitNl out ∧ InDirective rest ∧
      (d.lines ++ [[]]).map (indent 1 ++ ·) <:+: rest := by
  obtain ⟨e, tl, ht, hdoc, hmod⟩ := C01_item_entry cfg .none it d hd hk
  obtain ⟨out, rest, h1, h2, h3, h4⟩ := C01_page_block cfg hc hs title modName m hv hwf hk1 hone hm e
    (C01_entries_mem cfg m pre post it hitems e (by rw [ht]; simp))
  rw [nameModule_of_not_isModule modName hmod] at h2 h4
  have h5 := h4 _ _ (.own (C01_hasDocPara_of_not_module hmod))
  rw [hdoc, C01_canonical_doc_lines d hcan] at h5
  exact ⟨out, e, rest, h1, by rw [ht]; rfl, hdoc.trans (C01_canonical_doc d hcan), h2, h3, h5⟩

/-- the short form: the pipeline succeeds and the doccomment's lines are on the page -/
theorem C01_pipeline_any (cfg : Cfg) (hc : Str) (hs : List Str) (title modName : Str) (m : Module)
    (hv : m.valid = true) (hwf : itemsWf false m.items = true)
    (hk1 : cfg.inclCppClass = true ∨ itemsHaveDocumentedClass m.items = false)
    (pre post : List Item) (it : Item) (d : DocC) (hitems : m.items = pre ++ [it] ++ post)
    (hd : it.doc? = some d) (hk : it.TopKind) (hcan : Canonical d)
    (hone : ∀ e ∈ m.entries cfg, e.OneLine) (hm : '\n' ∉ modName) :
    ∃ out, pipeline cfg (hc :: hs) title modName m.render = .ok out ∧
      (d.lines ++ [[]]).map (indent 1 ++ ·) <:+: splitNl out := by
  obtain ⟨out, e, rest, h1, _, _, h4, _, h6⟩ :=
    C01_pipeline_item cfg hc hs title modName m hv hwf hk1 pre post it d hitems hd hk hcan hone hm
  exact ⟨out, h1, (List.infix_cons (List.infix_cons h6)).trans h4⟩

/-- **C01, end to end, for a documented function.**  Below the blank line and the heading line
    `.. function:: name(params…)` of *this* function, in the directive's content, the body lines of the doccomment stand
    verbatim, in order, each behind three columns, followed by the indented empty line. -/
theorem C01_pipeline (cfg : Cfg) (hc : Str) (hs : List Str) (title modName : Str) (m : Module)
    (hv : m.valid = true) (hwf : itemsWf false m.items = true)
    (hk1 : cfg.inclCppClass = true ∨ itemsHaveDocumentedClass m.items = false)
    (pre post : List Item) (d : DocC) (o : Call) (body : List Item) (c : Call)
    (hitems : m.items = pre ++ [Item.block (some d) o body c] ++ post)
    (hn : o.lname = lit "function") (hcan : Canonical d)
    (hone : ∀ e ∈ m.entries cfg, e.OneLine) (hm : '\n' ∉ modName) :
    ∃ out, pipeline cfg (hc :: hs) title modName m.render = .ok out ∧
      (d.lines ++ [[]]).map (indent 1 ++ ·) <:+: splitNl out ∧
      ∃ rest, ([] :: (lit ".. " ++ lit "function" ++ lit ":: " ++
          signature (o.singles.headD []) ((o.singles.drop 1).map cfg.stripFn ++
            (if isInfix cfg.trigger (joinNl (d.lines ++ [[]])) || itemsCpaDirect body then [lit "**kwargs"] else []))) ::
          rest) <:+: splitNl out ∧ InDirective rest ∧
        (d.lines ++ [[]]).map (indent 1 ++ ·) <:+: rest := by
  obtain ⟨out, e, rest, h1, h2, _, h4, h5, h6⟩ :=
    C01_pipeline_item cfg hc hs title modName m hv hwf hk1 pre post _ d hitems rfl trivial hcan hone hm
  refine ⟨out, h1, (List.infix_cons (List.infix_cons h6)).trans h4, rest, ?_, h5, h6⟩
  rw [C01_canonical_function cfg .none d o body c hcan hn] at h2
  simp only [List.head?_cons, Option.some.injEq] at h2
  subst h2
  exact h4

/-- the item kinds whose documentation goes into the enclosing class's entry -/
def Item.ClassKind : Item → Prop
  | .cmd _ call => call.lname = lit "cpp_attr"
  | .decl _ d _ _ _ => d.lname = lit "cpp_member" ∨ d.lname = lit "cpp_constructor"
  | _ => False

/-- a documented `cpp_member`/`cpp_constructor`/`cpp_attr` directly in the body of a shown class: the class's entry
    shows the cleaned text of its doccomment, two levels down -/
theorem C01_class_item_doc (cfg : Cfg) (bpre bpost : List Item) (mi : Item) (d : DocC) (hd : mi.doc? = some d)
    (hk : mi.ClassKind) (name doc : Str) (supers : List Str) :
    (Entry.cls name doc supers (itemsSpec cfg .shown (bpre ++ [mi] ++ bpost)).inner
      (itemsSpec cfg .shown (bpre ++ [mi] ++ bpost)).ctors (itemsSpec cfg .shown (bpre ++ [mi] ++ bpost)).members
      (itemsSpec cfg .shown (bpre ++ [mi] ++ bpost)).attrs).Shows 2 (docTextOf (some d)) := by
  rw [← List.append_cons, (C01_not_elsewhere cfg .shown bpre bpost mi).1]
  cases mi with
  | cmd doc call =>
    cases hd
    rw [spec_cmd_attr cfg .shown _ call hk]
    -- as an index of `Shows` the text must be a variable, or the unifier unfolds `docTextOf` down to `cleanDocLines`
    generalize docTextOf (some d) = t
    exact .attr (a := ⟨call.singles.getD 1 [], t, call.singles.headD [], call.singles[2]?⟩) (by simp)
  | decl doc dc impl body c =>
    cases hd
    rcases hk with hn | hn
    · rw [spec_decl_member cfg .shown _ dc impl body c false hn, ← methodOf_doc cfg (some d) dc impl false]
      exact .member (by simp)
    · rw [spec_decl_member cfg .shown _ dc impl body c true hn, ← methodOf_doc cfg (some d) dc impl true]
      exact .ctor (by simp)
  | block => exact hk.elim
  | dangling => exact hk.elim

/-- **C01, end to end, for a member, constructor or attribute of a class.**  A top-level `cpp_class` that has an
    entry (documented, or `include_undocumented_cpp_class` on), and directly in its body a `cpp_member`,
    `cpp_constructor` (with the implementing definition) or `cpp_attr` carrying the canonical doccomment `d`: below
    the heading line `.. py:class:: Name` of *this* class, in the directive's content, the body lines of `d` stand
    verbatim, in order, each behind six columns, followed by the indented empty line. -/
theorem C01_pipeline_member (cfg : Cfg) (hc : Str) (hs : List Str) (title modName : Str) (m : Module)
    (hv : m.valid = true) (hwf : itemsWf false m.items = true)
    (hk1 : cfg.inclCppClass = true ∨ itemsHaveDocumentedClass m.items = false)
    (pre post : List Item) (cdoc : Option DocC) (o : Call) (cbody : List Item) (cc : Call)
    (bpre bpost : List Item) (mi : Item) (d : DocC)
    (hitems : m.items = pre ++ [Item.block cdoc o cbody cc] ++ post)
    (hcls : o.lname = lit "cpp_class") (hshown : cdoc.isSome = true ∨ cfg.inclCppClass = true)
    (hbody : cbody = bpre ++ [mi] ++ bpost) (hd : mi.doc? = some d) (hk : mi.ClassKind) (hcan : Canonical d)
    (hone : ∀ e ∈ m.entries cfg, e.OneLine) (hm : '\n' ∉ modName) :
    ∃ out rest, pipeline cfg (hc :: hs) title modName m.render = .ok out ∧
      ([] :: (lit ".. " ++ lit "py:class" ++ lit ":: " ++ o.singles.headD []) :: rest) <:+: splitNl out ∧
      InDirective rest ∧ (d.lines ++ [[]]).map (indent 2 ++ ·) <:+: rest := by
  subst hbody
  have hspec := spec_block_class cfg .none cdoc o (bpre ++ [mi] ++ bpost) cc hcls
  have h := C01_class_item_doc cfg bpre bpost mi d hd hk (o.singles.headD []) (docTextOf cdoc) (o.singles.drop 1)
  rw [if_pos (by simpa using hshown)] at hspec
  generalize itemsSpec cfg .shown (bpre ++ [mi] ++ bpost) = b at hspec h
  obtain ⟨out, rest, h1, h2, h3, h4⟩ := C01_page_block cfg hc hs title modName m hv hwf hk1 hone hm
    (.cls (o.singles.headD []) (docTextOf cdoc) (o.singles.drop 1) b.inner b.ctors b.members b.attrs)
    (C01_entries_mem cfg m pre post _ hitems _ (by rw [hspec]; exact List.mem_cons_self))
  exact ⟨out, rest, h1, h2, h3, C01_canonical_doc_lines d hcan ▸ h4 _ _ h⟩

/-- **C01, end to end, for the module doccomment** `#[[[<blanks>@module<rest>` with `#`-led lines and LF line ends
    (`C01_module_doc`): below the heading line `.. module:: name` — `name` is what follows `@module`, stripped, or the
    path-derived name if that is empty — the body lines stand verbatim, in order, each behind three columns, followed
    by the indented empty line.  (`d.lines ≠ []`: a module doccomment without body lines has empty doc text, for which
    `ModuleDocumentation.process` writes no paragraph at all.) -/
theorem C01_pipeline_module (cfg : Cfg) (hc : Str) (hs : List Str) (title modName : Str) (m : Module)
    (hv : m.valid = true) (hwf : itemsWf false m.items = true)
    (hk1 : cfg.inclCppClass = true ∨ itemsHaveDocumentedClass m.items = false)
    (d : DocC) (sp rest : Str) (hmod : m.modDoc = some d)
    (hl : d.leader = true) (hcr : d.crlf = false) (hi : IndOk d.ind)
    (ho : d.openSuffix = sp ++ lit "@module" ++ rest) (hsp : IndOk sp) (hr : NoNl rest)
    (hn : ∀ t ∈ d.lines, NoNl t) (hne : d.lines ≠ [])
    (hone : ∀ e ∈ m.entries cfg, e.OneLine) (hm : '\n' ∉ modName) :
    ∃ out r, pipeline cfg (hc :: hs) title modName m.render = .ok out ∧
      ([] :: (lit ".. " ++ lit "module" ++ lit ":: " ++
          (if (stripWs (replaceAll (lit "@module") [] rest)).isEmpty then modName
           else stripWs (replaceAll (lit "@module") [] rest))) :: r) <:+: splitNl out ∧
      InDirective r ∧ (d.lines ++ [[]]).map (indent 1 ++ ·) <:+: r := by
  have hnd := C01_module_doc d sp rest hl hcr hi ho hsp hr hn
  have he : Entry.module (stripWs (replaceAll (lit "@module") [] rest)) (joinNl (d.lines ++ [[]])) ∈ m.entries cfg := by
    unfold Module.entries
    apply List.mem_append_left
    simp [hmod, hnd]
  have hnonempty : (joinNl (d.lines ++ [[]])).isEmpty = false := by
    cases hd : d.lines with
    | nil => exact absurd hd hne
    | cons l ls => rw [List.cons_append, joinNl_cons l (by simp)]; simp
  obtain ⟨out, r, h1, h2, h3, h4⟩ := C01_page_block cfg hc hs title modName m hv hwf hk1 hone hm _ he
  rw [nameModule_module] at h2 h4
  exact ⟨out, r, h1, h2, h3, splitNl_joinNl_concat_nil hn ▸ h4 _ _ (.own (by simp [Entry.hasDocPara, hnonempty]))⟩

/-! ## non-vacuity -/

namespace C01

/-! ### a function whose doccomment block is indented by a tab and two blanks

```
message(hi)
<TAB>  #[[[
<TAB>  # #x
<TAB>  #
<TAB>  #   indented
<TAB>  # héllo ✓
<TAB>  #]]
Function(f x)
  option(O "help")
endfunction()
option(P h)
```
The doc lines: one starting with `#`, an empty one, one with relative indentation, one with non-ASCII text. -/

def exDocF : DocC :=
  { pre := [.nl false], ind := lit "\t  ", openSuffix := [],
    lines := [lit "#x", [], lit "  indented", lit "héllo ✓"], leader := true, crlf := false }

def exFnOpen : Call :=
  { pre := [.nl false], name := lit "Function", sp := 0, close := [],
    args := [.tok [] (.bare (lit "f")), .tok [.spaces 1] (.bare (lit "x"))] }

def exFnBody : List Item :=
  [ .cmd none
      { pre := [.nl false, .spaces 2], name := lit "option", sp := 0, close := [],
        args := [.tok [] (.bare (lit "O")), .tok [.spaces 1] (.quoted (lit "help"))] } ]

def exFnClose : Call := { pre := [.nl false], name := lit "endfunction", sp := 0, args := [], close := [] }

def exPageModule : Module :=
  { bom := false, modDoc := none, tail := [.nl false],
    items := [.cmd none (mkCall "message" ["hi"]), .block (some exDocF) exFnOpen exFnBody exFnClose,
      .cmd none (mkCall "option" ["P", "h"])] }

theorem exDocF_canonical : Canonical exDocF := by decide +kernel

theorem exPageModule_valid : exPageModule.valid = true := by
  unfold exPageModule exDocF exFnOpen exFnBody exFnClose
  repeat rw [lit_ofList]
  decide +kernel

theorem exPageModule_wf : itemsWf false exPageModule.items = true := by decide +kernel

theorem exPageModule_oneLine : ∀ e ∈ exPageModule.entries {}, e.OneLine := by decide +kernel

example (hc title : Str) :
    ∃ out, pipeline {} [hc] title (lit "mod") exPageModule.render = .ok out ∧
      [lit "   #x", lit "   ", lit "     indented", lit "   héllo ✓", lit "   "] <:+: splitNl out ∧
      ∃ rest, ([] :: lit ".. function:: f(x)" :: rest) <:+: splitNl out ∧ InDirective rest ∧
        [lit "   #x", lit "   ", lit "     indented", lit "   héllo ✓", lit "   "] <:+: rest := by
  have h := C01_pipeline {} hc [] title (lit "mod") exPageModule exPageModule_valid exPageModule_wf (Or.inl rfl)
    (exPageModule.items.take 1) (exPageModule.items.drop 2) exDocF exFnOpen exFnBody exFnClose rfl
    (by decide +kernel) exDocF_canonical exPageModule_oneLine (by decide +kernel)
  have hl : (exDocF.lines ++ [[]]).map (indent 1 ++ ·) =
      [lit "   #x", lit "   ", lit "     indented", lit "   héllo ✓", lit "   "] := by
    unfold exDocF
    repeat rw [lit_ofList]
    rfl
  have hh : lit ".. " ++ lit "function" ++ lit ":: " ++
      signature (exFnOpen.singles.headD []) ((exFnOpen.singles.drop 1).map ({} : Cfg).stripFn ++
        (if isInfix ({} : Cfg).trigger (joinNl (exDocF.lines ++ [[]])) || itemsCpaDirect exFnBody
         then [lit "**kwargs"] else [])) = lit ".. function:: f(x)" := eq_lit_of (by decide +kernel)
  rw [hl, hh] at h
  exact h

/-! ### `exModule` (`TAgg.lean`): module doccomment, class with a documented member -/

theorem exModule_valid' : exModule.valid = true := exModule_valid

theorem exModule_oneLine : ∀ e ∈ exModule.entries {}, e.OneLine := by decide +kernel

theorem mkDoc_canonical (ls : List String) (h : ∀ l ∈ ls, '\n' ∉ l.toList) : Canonical (mkDoc "" ls) := by
  refine ⟨rfl, rfl, rfl, ?_, ?_⟩
  · intro c hc; simp [mkDoc] at hc
  · intro t ht
    simp only [mkDoc, List.mem_map] at ht
    obtain ⟨l, hl, rfl⟩ := ht
    exact h l hl

example (hc title : Str) :
    ∃ out rest, pipeline {} [hc] title (lit "mod") exModule.render = .ok out ∧
      ([] :: lit ".. py:class:: MyClass" :: rest) <:+: splitNl out ∧ InDirective rest ∧
      [lit "      A member.", lit "      "] <:+: rest := by
  -- the class is the second item, the member the only item of its body: `rfl` finds both
  have h := C01_pipeline_member {} hc [] title (lit "mod") exModule exModule_valid exModule_wf (Or.inl rfl)
    (exModule.items.take 1) (exModule.items.drop 2) _ (mkCall "CPP_CLASS" ["MyClass", "Base"]) _ _
    [] [] _ (mkDoc "" ["A member."]) rfl (by decide +kernel) (Or.inl rfl) rfl rfl (Or.inl (by decide +kernel))
    (mkDoc_canonical _ (by decide +kernel)) exModule_oneLine (by decide +kernel)
  have hl : ((mkDoc "" ["A member."]).lines ++ [[]]).map (indent 2 ++ ·) = [lit "      A member.", lit "      "] := by
    decide +kernel
  have hh : lit ".. " ++ lit "py:class" ++ lit ":: " ++ (mkCall "CPP_CLASS" ["MyClass", "Base"]).singles.headD [] =
      lit ".. py:class:: MyClass" := by
    repeat rw [lit_ofList]
    rfl
  rw [hl, hh] at h
  exact h

example (hc title : Str) :
    ∃ out r, pipeline {} [hc] title (lit "mod") exModule.render = .ok out ∧
      ([] :: lit ".. module:: mymod" :: r) <:+: splitNl out ∧ InDirective r ∧
      [lit "   Module text.", lit "   "] <:+: r := by
  have h := C01_pipeline_module {} hc [] title (lit "mod") exModule exModule_valid exModule_wf (Or.inl rfl)
    (mkDoc " @module mymod" ["Module text."]) [' '] (lit " mymod") rfl rfl rfl (by decide +kernel) (by decide +kernel)
    (by decide +kernel) (by decide +kernel) (by decide +kernel) (by decide +kernel) exModule_oneLine (by decide +kernel)
  have hl : ((mkDoc " @module mymod" ["Module text."]).lines ++ [[]]).map (indent 1 ++ ·) =
      [lit "   Module text.", lit "   "] := by decide +kernel
  have hh : lit ".. " ++ lit "module" ++ lit ":: " ++
      (if (stripWs (replaceAll (lit "@module") [] (lit " mymod"))).isEmpty then lit "mod"
       else stripWs (replaceAll (lit "@module") [] (lit " mymod"))) = lit ".. module:: mymod" := by
    repeat rw [lit_ofList]
    decide +kernel
  rw [hl, hh] at h
  exact h

/-- the hypothesis `hone` is needed: a function whose name contains a line break (possible with a quoted argument)
    breaks the line structure, and the block statement is not available (`C07`) -/
example : ¬ (Entry.func false (lit "a\nb") [] [] false).OneLine := by
  rw [lit_ofList]
  decide

example : (Entry.module (lit "m") []).toElem = .directive (lit "module") [lit "m"] [] [] := rfl

end C01

end Cminx
