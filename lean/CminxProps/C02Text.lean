import CminxProps.C12
/-!
# C02 (text half) — one heading line per entry, in order

*Statement (the part about the output text).* "… the output contains exactly one entry for each … command …, in
the order the commands appear …"

That the `documented` list has one entry per command, in order, is the aggregator's half (T_agg / C02 tree half).
Here: the page text shows exactly these entries, as exactly one line starting with `.. ` at column 0 each, in list
order, the module directive first when it is inserted.  Every other line of the page is blank, belongs to the title
frame, or starts with three spaces (it lies inside an entry's block, C07).

Hypotheses, all explicit:
* the entries' single-line strings and the path-derived module name contain no line break (`Entry.OneLine`, C07);
* no line of the title frame starts with `.. ` (`C02_text_headings`), which holds in particular when header string
  and title contain no line break and do not start with `.` (`C02_text_headings_simple`).  Without it the frame
  itself can look like a directive line, e.g. with the title `.. x` or the header string `.. `
  (`C02_frame_counterexample`).
-/
namespace Cminx

/-- the line that introduces an entry: `.. <directive>:: <argument>` at column 0 -/
def headingLine (e : Entry) : Str :=
  match e.toElem with
  | .directive name args _ _ => lit ".. " ++ name ++ lit ":: " ++ joinWith [','] args
  | _ => []

/-- "starts an explicit markup block at column 0" -/
def isHeadingLine (l : Str) : Bool := (lit ".. ").isPrefixOf l

theorem C02_headingLine_eq (e : Entry) :
    ∃ arg body, e.toElem = .directive e.dirName [arg] [] body ∧
      headingLine e = lit ".. " ++ e.dirName ++ lit ":: " ++ arg := by
  obtain ⟨arg, body, h⟩ := C07_entry_is_directive e
  exact ⟨arg, body, h, by rw [headingLine, h]; rfl⟩

theorem C02_headingLine_isHeading (e : Entry) : isHeadingLine (headingLine e) = true := by
  obtain ⟨arg, body, _, h⟩ := C02_headingLine_eq e
  rw [h, isHeadingLine, List.isPrefixOf_iff_prefix]
  exact ⟨e.dirName ++ lit ":: " ++ arg, by simp⟩

theorem C02_indented_not_heading (l : Str) (h : l = [] ∨ (indent 1).isPrefixOf l = true) : isHeadingLine l = false := by
  rcases h with rfl | h
  · rw [isHeadingLine, lit_ofList]
    rfl
  · rw [List.isPrefixOf_iff_prefix] at h
    obtain ⟨t, rfl⟩ := h
    rw [isHeadingLine, lit_ofList]
    rfl

/-- nothing inside a directive's block is a heading line at column 0 -/
theorem C02_shifted_not_heading (es : List Elem) :
    ∀ l ∈ (shiftT (tlinesList es)).map (·.2), isHeadingLine l = false := by
  rw [map_snd_shiftT]
  exact fun l hl => C02_indented_not_heading l (blocky_place (C07_tlinesList_untagged es) 1 l hl)

/-- of the lines of one entry's block exactly one is a heading line: the entry's heading -/
theorem C02_entry_one_heading (e : Entry) :
    (e.toElem.tlines.map (·.2)).filter isHeadingLine = [headingLine e] := by
  obtain ⟨arg, body, he, hh⟩ := C02_headingLine_eq e
  have h1 : isHeadingLine (headingLine e) = true := C02_headingLine_isHeading e
  have h0 : isHeadingLine [] = false := C02_indented_not_heading [] (Or.inl rfl)
  have hs : ((shiftT (tlinesList body)).map (·.2)).filter isHeadingLine = [] :=
    List.filter_eq_nil_iff.2 fun l hl => by simp [C02_shifted_not_heading body l hl]
  have hj : joinWith [','] [arg] = arg := rfl
  rw [he, Elem.tlines]
  simp only [List.map_cons, List.map_nil, List.map_append, List.filter_cons, List.filter_append, h0,
    hj, ← hh, h1, hs, Bool.false_eq_true, if_false, if_true, List.append_nil]
  split <;> simp [h0]

theorem C02_entries_headings (es : List Entry) :
    ((tlinesList (es.map Entry.toElem)).map (·.2)).filter isHeadingLine = es.map headingLine := by
  induction es with
  | nil => simp only [List.map_nil, tlinesList, List.map_cons, List.filter_cons]; rfl
  | cons e es ih =>
    simp only [List.map_cons, tlinesList, List.map_append, List.filter_append, C02_entry_one_heading, ih]
    rfl

/-- **The heading lines of a page are exactly the headings of the rendered entries, in order.**
    `hframe`: no line of the title frame starts with `.. `. -/
theorem C02_text_headings (hc title modName : Str) (docs : List Entry) (hm : '\n' ∉ modName)
    (h : ∀ e ∈ docs, e.OneLine)
    (hframe : ∀ l ∈ splitNl (renderHeading hc (titleOf title docs)), isHeadingLine l = false) :
    (splitNl (processDocs hc title modName docs).render).filter isHeadingLine =
      (renderedDocs modName docs).map headingLine := by
  rw [C07_page_lines hc title modName docs hm h, List.filter_append, C02_entries_headings,
    List.filter_eq_nil_iff.2 (by intro l hl; simp [hframe l hl]), List.nil_append]

theorem C02_repeatStr_head {hc : Str} {c : Char} (h : hc.head? ≠ some c) (n : Nat) : (repeatStr hc n).head? ≠ some c := by
  induction n with
  | zero => simp [repeatStr]
  | succ n ih =>
    cases hc with
    | nil => simpa [repeatStr] using ih
    | cons a as => simpa [repeatStr] using h

theorem C02_heading_head {l : Str} (h : l.head? ≠ some '.') : isHeadingLine l = false := by
  refine Bool.eq_false_iff.2 fun hx => h ?_
  obtain ⟨t, rfl⟩ := List.isPrefixOf_iff_prefix.1 hx
  rw [lit_ofList]
  rfl

/-- the frame hypothesis holds when header string and title are single-line and do not start with `.` -/
theorem C02_frame_ok (hc t : Str) (hcn : '\n' ∉ hc) (htn : '\n' ∉ t) (hcd : hc.head? ≠ some '.')
    (htd : t.head? ≠ some '.') : ∀ l ∈ splitNl (renderHeading hc t), isHeadingLine l = false := by
  have hb := not_mem_repeatStr hcn t.length
  have hbar := C02_heading_head (C02_repeatStr_head hcd t.length)
  rw [renderHeading, splitNl_cons_nl, splitNl_append_nl, splitNl_append_nl, splitNl_of_noNl hb, splitNl_of_noNl htn]
  -- a blank line, the bar, the title, the bar
  simp only [List.cons_append, List.nil_append, List.forall_mem_cons]
  exact ⟨C02_heading_head nofun, hbar, C02_heading_head htd, hbar, nofun⟩

theorem C02_titleOf_mem (title : Str) (docs : List Entry) :
    titleOf title docs = title ∨ ∃ d, Entry.module (titleOf title docs) d ∈ docs := by
  rw [C12_titleOf]
  cases h : (docs.filterMap namedModule?).getLast? with
  | none => exact .inl rfl
  | some n =>
    obtain ⟨e, he, hn⟩ := List.mem_filterMap.1 (List.mem_of_getLast? h)
    cases e with
    | module m d =>
      rw [namedModule?] at hn
      split at hn
      · cases hn
      · cases hn
        exact .inr ⟨d, he⟩
    | _ => cases hn

/-- The same with elementary hypotheses: header string and path-derived title contain no line break, and neither
    the header string nor the title actually used starts with `.`. -/
theorem C02_text_headings_simple (hc title modName : Str) (docs : List Entry) (hm : '\n' ∉ modName)
    (h : ∀ e ∈ docs, e.OneLine) (hcn : '\n' ∉ hc) (htn : '\n' ∉ title) (hcd : hc.head? ≠ some '.')
    (htd : (titleOf title docs).head? ≠ some '.') :
    (splitNl (processDocs hc title modName docs).render).filter isHeadingLine =
      (renderedDocs modName docs).map headingLine := by
  apply C02_text_headings hc title modName docs hm h
  apply C02_frame_ok hc _ hcn _ hcd htd
  rcases C02_titleOf_mem title docs with e | ⟨d, hd⟩
  · rw [e]; exact htn
  · exact h _ hd

theorem headingLine_module (m d : Str) : headingLine (.module m d) = lit ".. module:: " ++ m := by
  show lit ".. " ++ lit "module" ++ lit ":: " ++ m = _
  repeat rw [lit_ofList]
  rfl

/-- no module doccomment: the inserted module directive's heading, then one heading per documented entry, in order -/
theorem C02_text_headings_no_module (hc title modName : Str) (docs : List Entry) (hm : '\n' ∉ modName)
    (h : ∀ e ∈ docs, e.OneLine) (hno : docs.all (!isModule ·) = true)
    (hframe : ∀ l ∈ splitNl (renderHeading hc title), isHeadingLine l = false) :
    (splitNl (processDocs hc title modName docs).render).filter isHeadingLine =
      (lit ".. module:: " ++ modName) :: docs.map headingLine := by
  rw [C02_text_headings hc title modName docs hm h (by rw [C12_titleOf_no_module title docs hno]; exact hframe),
    renderedDocs_of_noModule hno, List.map_cons]
  rw [headingLine_module]

/-- so the number of heading lines is the number of documented entries, plus one for an inserted module directive -/
theorem C02_text_count (hc title modName : Str) (docs : List Entry) (hm : '\n' ∉ modName)
    (h : ∀ e ∈ docs, e.OneLine)
    (hframe : ∀ l ∈ splitNl (renderHeading hc (titleOf title docs)), isHeadingLine l = false) :
    ((splitNl (processDocs hc title modName docs).render).filter isHeadingLine).length =
      docs.length + (if docs.any isModule then 0 else 1) := by
  rw [C02_text_headings hc title modName docs hm h hframe, List.length_map, renderedDocs, List.length_map]
  split <;> simp

/-- a header *string* that itself looks like explicit markup defeats the count: the frame hypothesis is needed -/
theorem C02_frame_counterexample :
    (splitNl (processDocs (lit ".. ") ['t'] ['m'] []).render).filter isHeadingLine =
      [lit ".. ", lit ".. ", lit ".. module:: m"] := by
  repeat rw [lit_ofList]
  decide

/-! ## Non-vacuity -/

section Examples

example : (splitNl (processDocs ['#'] (lit "t") (lit "m") [exClass, exVar, exFunc]).render).filter isHeadingLine =
    [lit ".. module:: m", lit ".. py:class:: C", lit ".. data:: V", lit ".. function:: f(a b **kwargs)"] := by
  have := C02_text_headings_no_module ['#'] (lit "t") (lit "m") [exClass, exVar, exFunc] (by simp [lit])
    C07_examples_oneLine (by decide)
    (C02_frame_ok _ _ (by decide) (by simp [lit]) (by decide) (by simp [lit]))
  rw [this]
  simp only [List.map_cons, List.map_nil, headingLine, exClass, exVar, exFunc, Entry.toElem]
  repeat rw [lit_ofList]
  rfl

end Examples

end Cminx
