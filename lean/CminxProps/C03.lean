import CminxLemmas.SpecLemmas
import CminxProps.TAgg
/-!
# C03 — function and macro signatures mirror the definition

Read off the structural specification (`Item.spec`, `defEntry`, `itemsCpaDirect` in `CminxModel/Spec.lean`) and
`Entry.toElem` (`CminxModel/DocTypes.lean`); `C03_machine` transports the statements through `T_agg` to the
listener state machine.  `cfg.stripFn` / `cfg.stripMacro` are arbitrary functions `Str → Str` (the model of
`re.sub(pattern, "", ·)`), `cfg.trigger` an arbitrary string: every theorem quantifies over all of them.
-/
namespace Cminx

/-! `C03.DirectCpa` is defined in `CminxLemmas/SpecLemmas.lean`. -/

open C03

/-- The entry of a function (`isMacro = false`) or macro definition that is documented or whose
`include_undocumented_*` flag is on: the name is the first argument, untouched; the parameters are the remaining
arguments in order, each passed through the strip function of that kind; the `**kwargs` flag is "trigger string
occurs in the cleaned doccomment, or a `cmake_parse_arguments` call sits directly in this body".  It is followed
by the entries of the body.  Nothing else enters: not the siblings, not the enclosing definitions, not the class
context. -/
theorem C03_signature (cfg : Cfg) (ctx : ClsCtx) (doc : Option DocC) (o : Call) (body : List Item) (c : Call)
    (isMacro : Bool) (hn : o.lname = if isMacro then lit "macro" else lit "function")
    (hincl : doc.isSome = true ∨ (if isMacro then cfg.inclMacro else cfg.inclFunction) = true) :
    ((Item.block doc o body c).spec cfg ctx).top =
      .func isMacro (o.singles.headD []) (docTextOf doc)
          ((o.singles.drop 1).map (if isMacro then cfg.stripMacro else cfg.stripFn))
          (isInfix cfg.trigger (docTextOf doc) || itemsCpaDirect body) ::
        (itemsSpec cfg ctx body).top := by
  rw [spec_block_def cfg ctx doc o body c isMacro hn, if_pos hincl]
  rfl

/-- with the arguments named: `function(name p₁ … pₙ)` gives `name` and `[strip p₁, …, strip pₙ]` -/
theorem C03_signature_function (cfg : Cfg) (ctx : ClsCtx) (doc : Option DocC) (o : Call) (body : List Item) (c : Call)
    (name : Str) (params : List Str) (hn : o.lname = lit "function") (hs : o.singles = name :: params)
    (hincl : doc.isSome = true ∨ cfg.inclFunction = true) :
    ((Item.block doc o body c).spec cfg ctx).top =
      .func false name (docTextOf doc) (params.map cfg.stripFn)
          (isInfix cfg.trigger (docTextOf doc) || itemsCpaDirect body) :: (itemsSpec cfg ctx body).top := by
  rw [C03_signature cfg ctx doc o body c false (by simpa using hn) (by simpa using hincl), hs]; simp

theorem C03_signature_macro (cfg : Cfg) (ctx : ClsCtx) (doc : Option DocC) (o : Call) (body : List Item) (c : Call)
    (name : Str) (params : List Str) (hn : o.lname = lit "macro") (hs : o.singles = name :: params)
    (hincl : doc.isSome = true ∨ cfg.inclMacro = true) :
    ((Item.block doc o body c).spec cfg ctx).top =
      .func true name (docTextOf doc) (params.map cfg.stripMacro)
          (isInfix cfg.trigger (docTextOf doc) || itemsCpaDirect body) :: (itemsSpec cfg ctx body).top := by
  rw [C03_signature cfg ctx doc o body c true (by simpa using hn) (by simpa using hincl), hs]; simp

/-- a definition without a doccomment whose flag is off has no entry; its body is still read -/
theorem C03_hidden (cfg : Cfg) (ctx : ClsCtx) (o : Call) (body : List Item) (c : Call)
    (isMacro : Bool) (hn : o.lname = if isMacro then lit "macro" else lit "function")
    (hincl : (if isMacro then cfg.inclMacro else cfg.inclFunction) = false) :
    (Item.block none o body c).spec cfg ctx = itemsSpec cfg ctx body := by
  rw [spec_block_def cfg ctx none o body c isMacro hn]
  simp [hincl]

/-! ## where a `cmake_parse_arguments` call counts -/

/-- a single command counts iff it is a `cmake_parse_arguments` call (any letter case) -/
theorem C03_cpa_cmd (doc : Option DocC) (call : Call) :
    (Item.cmd doc call).cpaDirect = decide (call.lname = lit "cmake_parse_arguments") := by
  simp [Item.cpaDirect]

/-- calls inside a nested function or macro definition never count -/
theorem C03_cpa_nested_def (doc : Option DocC) (o : Call) (body : List Item) (c : Call)
    (hn : o.lname = lit "function" ∨ o.lname = lit "macro") : (Item.block doc o body c).cpaDirect = false :=
  cpaDirect_block_def hn

/-- calls inside the implementation of a member or test declaration never count for the enclosing definition -/
theorem C03_cpa_decl (doc : Option DocC) (d impl : Call) (body : List Item) (c : Call) :
    (Item.decl doc d impl body c).cpaDirect = false := by
  simp [Item.cpaDirect]

theorem C03_cpa_dangling (d : DocC) : (Item.dangling d).cpaDirect = false := by
  simp [Item.cpaDirect]

/-- `if`/`foreach`/`while` blocks and classes are transparent -/
theorem C03_cpa_block (doc : Option DocC) (o : Call) (body : List Item) (c : Call)
    (hn : isLoopName o.lname = true ∨ o.lname = lit "cpp_class") :
    (Item.block doc o body c).cpaDirect = itemsCpaDirect body :=
  cpaDirect_block_through hn

theorem C03_cpa_cons (i : Item) (is : List Item) : itemsCpaDirect (i :: is) = (i.cpaDirect || itemsCpaDirect is) := by
  simp [itemsCpaDirect]

theorem C03_cpa_append (a b : List Item) : itemsCpaDirect (a ++ b) = (itemsCpaDirect a || itemsCpaDirect b) :=
  itemsCpaDirect_append a b

/-- `itemsCpaDirect` decides exactly `DirectCpa`: the `**kwargs` scan sees the calls of this body outside nested
definitions, and nothing else -/
theorem C03_cpa_scope (items : List Item) : itemsCpaDirect items = true ↔ DirectCpa items := by
  constructor
  · exact itemsCpaDirect_sound items
  · intro h
    induction h with
    | here hc => simp [itemsCpaDirect_append, itemsCpaDirect, Item.cpaDirect, hc]
    | inBlock hn _ ih =>
      rw [itemsCpaDirect_append, C03_cpa_cons, C03_cpa_block _ _ _ _ hn, ih]; simp

/-- the `**kwargs` flag of a definition's entry: trigger string in the doccomment, or a direct call in its body -/
theorem C03_kwargs_iff (cfg : Cfg) (isMacro : Bool) (doc : Option DocC) (o : Call) (body : List Item) :
    ∃ name d ps kw, defEntry cfg isMacro doc o body = .func isMacro name d ps kw ∧
      (kw = true ↔ isInfix cfg.trigger (docTextOf doc) = true ∨ DirectCpa body) := by
  refine ⟨_, _, _, _, rfl, ?_⟩
  rw [Bool.or_eq_true, C03_cpa_scope]

/-- Siblings never matter: inside `pre ++ it :: post` the item `it` contributes `(it.spec cfg ctx).top`, a
function of `it` alone, between the contributions of `pre` and `post`.  So a `cmake_parse_arguments` call in an
earlier or later definition (or between definitions) cannot change the entry of `it`. -/
theorem C03_siblings_irrelevant (cfg : Cfg) (ctx : ClsCtx) (pre post : List Item) (it : Item) :
    (itemsSpec cfg ctx (pre ++ it :: post)).top =
      (itemsSpec cfg ctx pre).top ++ (it.spec cfg ctx).top ++ (itemsSpec cfg ctx post).top :=
  itemsSpec_append_cons_top cfg ctx pre post it

/-- a `cmake_parse_arguments` call contributes nothing by itself — in particular at file level, where there is
no definition it could mark -/
theorem C03_file_level (cfg : Cfg) (ctx : ClsCtx) (doc : Option DocC) (call : Call)
    (hn : call.lname = lit "cmake_parse_arguments") : (Item.cmd doc call).spec cfg ctx = {} :=
  spec_cmd_cpa cfg ctx doc call hn

/-- a definition nested in the body of another: the outer flag ignores the inner body, the inner flag sees
its own body only -/
theorem C03_nested (cfg : Cfg) (ctx : ClsCtx) (doc idoc : Option DocC) (o c io ic : Call) (pre post ibody : List Item)
    (isMacro iMacro : Bool)
    (hn : o.lname = if isMacro then lit "macro" else lit "function")
    (hincl : doc.isSome = true ∨ (if isMacro then cfg.inclMacro else cfg.inclFunction) = true)
    (hin : io.lname = if iMacro then lit "macro" else lit "function")
    (hiincl : idoc.isSome = true ∨ (if iMacro then cfg.inclMacro else cfg.inclFunction) = true) :
    ((Item.block doc o (pre ++ .block idoc io ibody ic :: post) c).spec cfg ctx).top =
      .func isMacro (o.singles.headD []) (docTextOf doc)
          ((o.singles.drop 1).map (if isMacro then cfg.stripMacro else cfg.stripFn))
          (isInfix cfg.trigger (docTextOf doc) || (itemsCpaDirect pre || itemsCpaDirect post)) ::
        ((itemsSpec cfg ctx pre).top ++
          .func iMacro (io.singles.headD []) (docTextOf idoc)
              ((io.singles.drop 1).map (if iMacro then cfg.stripMacro else cfg.stripFn))
              (isInfix cfg.trigger (docTextOf idoc) || itemsCpaDirect ibody) ::
            ((itemsSpec cfg ctx ibody).top ++ (itemsSpec cfg ctx post).top)) := by
  have hdef : (Item.block idoc io ibody ic).cpaDirect = false :=
    C03_cpa_nested_def idoc io ibody ic (by cases iMacro <;> simp [hin])
  rw [C03_signature cfg ctx doc o _ c isMacro hn hincl, C03_siblings_irrelevant,
    C03_signature cfg ctx idoc io ibody ic iMacro hin hiincl, C03_cpa_append, C03_cpa_cons, hdef]
  simp

/-- A function entry is a `.. function::` directive whose single argument is `name(p₁ p₂ …)`, the parameters
separated by single spaces, with `**kwargs` appended — once, last — iff the flag is set; a macro entry
additionally starts with the macro note. -/
theorem C03_render (isMacro : Bool) (name doc : Str) (params : List Str) (kw : Bool) :
    (Entry.func isMacro name doc params kw).toElem =
      .directive (lit "function")
        [name ++ lit "(" ++ joinWith [' '] (if kw then params ++ [lit "**kwargs"] else params) ++ lit ")"] []
        ((if isMacro then [Elem.directive (lit "note") [macroNote] [] []] else []) ++ [.para doc]) := by
  rw [Entry.toElem, signature_eq]
  cases kw
  · simp
  · simp

/-- Through `T_agg`: for every well-formed module outside the K1 region (see `T_agg_K1_counterexample`) the
listener ends normally and its `documented` list is `m.entries cfg` — the module entry (if any) followed by
`(itemsSpec cfg .none m.items).top`, to which the equations above apply at every nesting depth. -/
theorem C03_machine (cfg : Cfg) (m : Module) (hwf : itemsWf false m.items = true)
    (hk1 : cfg.inclCppClass = true ∨ itemsHaveDocumentedClass m.items = false) :
    ∃ st, aggregate cfg m.events = .ok st ∧ st.errors = 0 ∧
      st.documented =
        (match m.modDoc with
         | some d => [Entry.module (moduleNameDoc d.tokenText).1 (moduleNameDoc d.tokenText).2]
         | none => []) ++ (itemsSpec cfg .none m.items).top := by
  obtain ⟨st, h1, h2, h3, _⟩ := T_agg cfg m hwf hk1
  exact ⟨st, h1, h3, h2.trans (Module.entries_eq cfg m)⟩

/-- a top-level definition of a well-formed module, as the machine records it -/
theorem C03_machine_toplevel (cfg : Cfg) (m : Module) (hwf : itemsWf false m.items = true)
    (hk1 : cfg.inclCppClass = true ∨ itemsHaveDocumentedClass m.items = false)
    (pre post : List Item) (doc : Option DocC) (o : Call) (body : List Item) (c : Call) (isMacro : Bool)
    (hitems : m.items = pre ++ .block doc o body c :: post)
    (hn : o.lname = if isMacro then lit "macro" else lit "function")
    (hincl : doc.isSome = true ∨ (if isMacro then cfg.inclMacro else cfg.inclFunction) = true) :
    ∃ st front back, aggregate cfg m.events = .ok st ∧
      st.documented = front ++
        .func isMacro (o.singles.headD []) (docTextOf doc)
          ((o.singles.drop 1).map (if isMacro then cfg.stripMacro else cfg.stripFn))
          (isInfix cfg.trigger (docTextOf doc) || itemsCpaDirect body) :: back := by
  obtain ⟨st, h1, h2, _⟩ := T_agg cfg m hwf hk1
  obtain ⟨front, hf⟩ := Module.entries_of_items cfg hitems
  refine ⟨st, front, (itemsSpec cfg .none body).top ++ (itemsSpec cfg .none post).top, h1, ?_⟩
  rw [h2, hf, C03_signature cfg .none doc o body c isMacro hn hincl]
  simp

/-! ## non-vacuity -/

/-- a strip function that also matches inside the function name: drop every underscore -/
def exStrip : Str → Str := fun s => s.filter (· ≠ '_')

/-- `function(my_fn _a b_)` … `endfunction()` with a `cmake_parse_arguments` call inside an `if` of a *nested*
macro, and another one after the definition -/
def exOuter : Item :=
  .block (some (mkDoc "" ["Outer."])) (mkCall "function" ["my_fn", "_a", "b_"])
    [ .cmd none (mkCall "message" ["x"]),
      .block none (mkCall "MACRO" ["in_ner", "_p"])
        [ .block none (mkCall "if" ["p"]) [ .cmd none (mkCall "cmake_parse_arguments" ["A", "", "", ""]) ]
            (mkCall "endif" []) ]
        (mkCall "endmacro" []),
      .cmd none (mkCall "message" ["y"]) ]
    (mkCall "endfunction" [])

example : (exOuter.spec { stripFn := exStrip } .none).top =
    [ .func false (lit "my_fn") (docTextOf (some (mkDoc "" ["Outer."]))) [lit "a", lit "b"] false,
      .func true (lit "in_ner") [] [lit "_p"] true ] := by
  refine Eq.trans (C03_nested { stripFn := exStrip } .none
    (some (mkDoc "" ["Outer."])) none (mkCall "function" ["my_fn", "_a", "b_"]) (mkCall "endfunction" [])
    (mkCall "MACRO" ["in_ner", "_p"]) (mkCall "endmacro" []) [.cmd none (mkCall "message" ["x"])]
    [.cmd none (mkCall "message" ["y"])] _ false true (by decide +kernel) (Or.inl rfl) (by decide +kernel) (Or.inr rfl)) ?_
  decide +kernel

/-- followed by a file-level call: same entries -/
example : (itemsSpec { stripFn := exStrip } .none
      [exOuter, .cmd none (mkCall "cmake_parse_arguments" ["B", "", "", ""])]).top =
    (exOuter.spec { stripFn := exStrip } .none).top := by
  refine Eq.trans (C03_siblings_irrelevant _ .none [] [.cmd none (mkCall "cmake_parse_arguments" ["B", "", "", ""])]
    exOuter) ?_
  rw [itemsSpec_cons, C03_file_level _ _ none _ (by decide +kernel), itemsSpec_nil]
  simp

/-- the call inside `if` inside the macro body is a direct call of the macro's body -/
example : DirectCpa
    [ Item.block none (mkCall "if" ["p"]) [ .cmd none (mkCall "cmake_parse_arguments" ["A", "", "", ""]) ]
        (mkCall "endif" []) ] :=
  (C03_cpa_scope _).mp (by decide +kernel)

example : (Entry.func true (lit "m") (lit "d") [lit "a", lit "b"] true).toElem =
    .directive (lit "function") [lit "m(a b **kwargs)"] []
      [.directive (lit "note") [macroNote] [] [], .para (lit "d")] := by
  rw [C03_render]
  simp [joinWith, lit]

end Cminx
