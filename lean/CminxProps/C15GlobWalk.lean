import CminxProps.C15
import CminxProps.C15Glob
/-!
# C15 — the walk under gitignore patterns, in closed form

`C15.lean` characterises the walk for an arbitrary exclusion predicate (`OpenPath`, `Reachable`, `C15_iff`); `C15Glob.lean` says what
the predicate computed from the patterns (`Glob.exclOf`) is.  Here the two meet for the pattern form the property names first, bare names:
"a file or directory below the input path is processed if and only if it matches none of the exclude patterns — a bare name matches at
any depth".  The side condition `hroot` (no pattern names a component of the absolute path of the directory the walk starts in) is the
complement of known finding K7 (`C15G_K7_above_input`): patterns see absolute paths.
-/
namespace Cminx
namespace Glob

theorem PathOk.append_prefix {abs rel q p : List Str} (h : PathOk (abs ++ rel ++ q)) (habs : abs ≠ []) (hpre : p <+: q) :
    PathOk (abs ++ rel ++ p) :=
  ⟨by simp [habs], fun c hc => h.2 c (by
    rcases List.mem_append.1 hc with h | h
    · exact List.mem_append_left _ h
    · exact List.mem_append_right _ (hpre.subset h))⟩

section
variable {ns : List Str} (hpl : ∀ n ∈ ns, Plain n) {abs : List Str} (habs : abs ≠ []) {cs : List Compiled}
  (hc : compileAll ns = .ok cs) (rel : List Str)
include hpl habs hc

theorem exclOf_bare_hit {p : List Str} (hp : PathOk (abs ++ rel ++ p)) {n : Str} (hn : n ∈ ns) (hm : n ∈ p) (d : Bool) :
    exclOf cs ('/' :: joinWith ['/'] abs) (rel ++ p) d = true := by
  rw [exclOf_bare_eq ns hpl abs _ (List.append_assoc abs rel p ▸ hp) habs cs hc d, List.any_eq_true]
  exact ⟨n, hn, by simp [hm]⟩

theorem exclOf_bare_below {p : List Str} (hp : PathOk (abs ++ rel ++ p)) (hroot : ∀ n ∈ ns, n ∉ abs ++ rel) (d : Bool) :
    exclOf cs ('/' :: joinWith ['/'] abs) (rel ++ p) d = false ↔ ∀ n ∈ ns, n ∉ p := by
  rw [exclOf_bare_eq ns hpl abs _ (List.append_assoc abs rel p ▸ hp) habs cs hc d, List.any_eq_false]
  refine forall₂_congr fun n hn => ?_
  rw [decide_eq_true_iff, ← List.append_assoc, List.mem_append, not_or, and_iff_right (hroot n hn)]

theorem not_openPath_bare {q : List Str} (hp : PathOk (abs ++ rel ++ q)) {n : Str} (hn : n ∈ ns) (hq : n ∈ q) :
    ¬ OpenPath (exclOf cs ('/' :: joinWith ['/'] abs)) rel q := by
  intro ho
  obtain ⟨q', t, rfl⟩ := List.append_of_mem hq
  have hpre : (q' ++ [n]) <+: q' ++ n :: t := ⟨t, by simp⟩
  have h := ho q' n hpre
  rw [List.append_assoc, exclOf_bare_hit hpl habs hc rel (hp.append_prefix habs hpre) hn (by simp) true] at h
  cases h

end

/-- no directory on the way from `rel` down to `rel ++ q` is excluded iff no pattern names a component of `q` -/
theorem C15G_openPath_bare (ns : List Str) (hpl : ∀ n ∈ ns, Plain n) (abs rel q : List Str)
    (hp : PathOk (abs ++ rel ++ q)) (habs : abs ≠ []) (cs : List Compiled) (hc : compileAll ns = .ok cs)
    (hroot : ∀ n ∈ ns, n ∉ abs ++ rel) :
    OpenPath (exclOf cs ('/' :: joinWith ['/'] abs)) rel q ↔ ∀ n ∈ ns, n ∉ q := by
  constructor
  · intro ho n hn hq
    exact not_openPath_bare hpl habs hc rel hp hn hq ho
  · intro hno q' d hpre
    rw [List.append_assoc, exclOf_bare_below hpl habs hc rel (hp.append_prefix habs hpre) hroot]
    exact fun n hn hm => hno n hn (hpre.subset hm)

/-- a CMake file of the tree is reachable (hence, by `C15_if`/`C15_only_if`, has its page written) iff no pattern names a directory on
    the way to it or the file itself -/
theorem C15G_reachable_bare (ns : List Str) (hpl : ∀ n ∈ ns, Plain n) (abs rel q : List Str) (f content : Str)
    (listing : List FsNode) (hp : PathOk (abs ++ rel ++ q ++ [f])) (habs : abs ≠ []) (cs : List Compiled)
    (hc : compileAll ns = .ok cs) (hroot : ∀ n ∈ ns, n ∉ abs ++ rel) :
    Reachable (exclOf cs ('/' :: joinWith ['/'] abs)) rel listing q f content ↔
      (∃ ch, DirAt listing q ch ∧ FsNode.file f content ∈ ch ∧ isCMakeName f = true) ∧ ∀ n ∈ ns, n ∉ q ++ [f] := by
  have hp' : PathOk (abs ++ rel ++ (q ++ [f])) := List.append_assoc (abs ++ rel) q [f] ▸ hp
  have hop := C15G_openPath_bare ns hpl abs rel q (hp'.append_prefix habs (List.prefix_append q [f])) habs cs hc hroot
  have hfile := exclOf_bare_below hpl habs hc rel hp' hroot false
  rw [← List.append_assoc] at hfile
  constructor
  · rintro ⟨ch, hd, hm, hcm, ho, he⟩
    exact ⟨⟨ch, hd, hm, hcm⟩, hfile.1 he⟩
  · rintro ⟨⟨ch, hd, hm, hcm⟩, hno⟩
    exact ⟨ch, hd, hm, hcm, hop.2 (fun n hn hq => hno n hn (List.mem_append_left _ hq)), hfile.2 hno⟩

/-- an excluded directory is not descended into: if a pattern names a component of `q`, nothing below `rel ++ q` is reachable -/
theorem C15G_not_reachable_below (ns : List Str) (hpl : ∀ n ∈ ns, Plain n) (abs rel q : List Str) (f content : Str)
    (listing : List FsNode) (hp : PathOk (abs ++ rel ++ q ++ [f])) (habs : abs ≠ []) (cs : List Compiled)
    (hc : compileAll ns = .ok cs) (n : Str) (hn : n ∈ ns) (hq : n ∈ q) :
    ¬ Reachable (exclOf cs ('/' :: joinWith ['/'] abs)) rel listing q f content := by
  rintro ⟨_, _, _, _, ho, _⟩
  have hp' : PathOk (abs ++ rel ++ (q ++ [f])) := List.append_assoc (abs ++ rel) q [f] ▸ hp
  exact not_openPath_bare hpl habs hc rel (hp'.append_prefix habs (List.prefix_append q [f])) hn hq ho

/-! ## non-vacuity: the hypotheses of `C15G_reachable_bare` are met for `/home/u/proj`, pattern `build`, file `cmake/a.cmake` -/

example (listing : List FsNode) (content : Str) :
    ∃ cs, compileAll [lit "build"] = .ok cs ∧
      (Reachable (exclOf cs ('/' :: joinWith ['/'] [lit "home", lit "u", lit "proj"])) [] listing [lit "cmake"]
          (lit "a.cmake") content ↔
        (∃ ch, DirAt listing [lit "cmake"] ch ∧ FsNode.file (lit "a.cmake") content ∈ ch ∧
          isCMakeName (lit "a.cmake") = true) ∧ ∀ n ∈ [lit "build"], n ∉ [lit "cmake"] ++ [lit "a.cmake"]) := by
  have hpl : ∀ n ∈ [lit "build"], Plain n := by
    rw [lit_ofList]
    decide
  have hp : PathOk ([lit "home", lit "u", lit "proj"] ++ [] ++ [lit "cmake"] ++ [lit "a.cmake"]) := by
    rw [lit_ofList, lit_ofList, lit_ofList, lit_ofList, lit_ofList]
    decide
  have hroot : ∀ n ∈ [lit "build"], n ∉ [lit "home", lit "u", lit "proj"] ++ [] := by
    rw [lit_ofList, lit_ofList, lit_ofList, lit_ofList]
    decide
  obtain ⟨cs, hc, -⟩ := bare_compileAll [lit "build"] hpl
  exact ⟨cs, hc, C15G_reachable_bare _ hpl _ [] _ _ content listing hp (by simp) cs hc hroot⟩

end Glob
end Cminx
