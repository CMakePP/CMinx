import CminxLemmas.WalkLemmas
/-!
# C15 — exclusion by pattern while walking a directory tree

Property theorems about the model in `CminxModel/Walk.lean` (`walkDir` = one `os.walk` iteration of `document`
plus everything below it, `document` = the function of the same name in `__init__.py`).

The file system is an explicit tree (`FsNode`) whose child order is the directory-listing order; pathspec is an
arbitrary predicate `excl : List Str → Bool → Bool` on (path components relative to the input directory,
is-directory).  Every theorem below holds for every such predicate, so it holds in particular no matter which
configuration source supplied which pattern (that the pattern lists of the sources are concatenated is part of
another property).

## The clauses of C15, as the docstrings number them
1. An input path that is itself excluded produces no output at all (`C15_root`).
2. An excluded directory is not descended into: nothing is written or printed for anything below it
   (`C15_no_descend`, `C15_no_descend_deep`, `C15_no_descend_stdout`).
3. A file or directory below the input is processed if and only if neither it nor a directory between the input and
   it matches a pattern (`C15_if`, `C15_only_if`, together `C15_iff`).
4. What is written does not depend on the order in which the entries of a directory are listed (`C15_order`,
   `C15_order_error`, `C15_order_mem`, `C15_order_new`, `C15_order_stdout`).
5. Which entries of a directory survive does not depend on how many of them match, adjacent in the listing or not
   (`C15_count_independent`, `C15_count_independent_index`).

The model of the loop before repair D6, for which `C15_order` and `C15_count_independent` fail, is in
`C15_old.lean`.

## Two statements that are false as first written down, and what is proved instead
* "No write path *starts with* `rel ++ [n]` for an excluded sub-directory `n`" is false when `n` is called
  `index.rst`: the index page of the parent directory is written to exactly `rel ++ ["index.rst"]`.
  `C15_no_descend` therefore speaks of paths strictly *below* `rel ++ [n]` (see `C15_no_descend_needs_strict`).
* "A page write with the path and the content belonging to file `f` is among the writes only if `f` is
  reachable" is false when two files of one directory have the same stem and the same page text
  (`a.cmake` and `a.CMAKE` with equal content and titles without extensions): the write made for the one
  that is kept is also "the" write of the one that is excluded.  `C15_only_if` therefore says that every
  new write is the index page of an open directory or the page of *some* reachable file, and `C15_iff`
  is an equality of sets of writes.
-/
namespace Cminx

/-- the writes one `walkDir` adds to what was there before -/
def newWrites (c : WalkCfg) (excl : List Str → Bool → Bool) (pfx : Str) (rel : List Str) (listing : List FsNode)
    (r : RunResult) : List Write :=
  (walkDir c excl pfx rel listing r).writes.drop r.writes.length

/-- the text one `walkDir` adds to standard output -/
def newStdout (c : WalkCfg) (excl : List Str → Bool → Bool) (pfx : Str) (rel : List Str) (listing : List FsNode)
    (r : RunResult) : Str :=
  (walkDir c excl pfx rel listing r).stdout.drop r.stdout.length

/-- `DirAt listing q ch`: following the directory names `q` downwards from `listing` leads to a directory whose
    listing is `ch` -/
inductive DirAt : List FsNode → List Str → List FsNode → Prop
  | here (l : List FsNode) : DirAt l [] l
  | step {l : List FsNode} {n : Str} {ch : List FsNode} {q : List Str} {l' : List FsNode} :
      FsNode.dir n ch ∈ l → DirAt ch q l' → DirAt l (n :: q) l'

/-- none of the directories `rel ++ q'`, `q'` a non-empty prefix of `q`, is excluded -/
def OpenPath (excl : List Str → Bool → Bool) (rel q : List Str) : Prop :=
  ∀ q' d, (q' ++ [d]) <+: q → excl (rel ++ q' ++ [d]) true = false

/-- the file `f` with text `content` and a CMake name sits in directory `rel ++ q` of the tree, no directory on
    the way down to it is excluded, and it is not excluded itself -/
def Reachable (excl : List Str → Bool → Bool) (rel : List Str) (listing : List FsNode)
    (q : List Str) (f content : Str) : Prop :=
  ∃ ch, DirAt listing q ch ∧ FsNode.file f content ∈ ch ∧ isCMakeName f = true ∧
    OpenPath excl rel q ∧ excl (rel ++ q ++ [f]) false = false

/-- the sub-directories of the directory at `rel` that survive the exclusion patterns -/
def keptDirs (excl : List Str → Bool → Bool) (rel : List Str) (listing : List FsNode) : List Str :=
  (dirNames listing).filter (fun n => !excl (rel ++ [n]) true)

/-- the files of the directory at `rel` that survive the exclusion patterns -/
def keptFileNames (excl : List Str → Bool → Bool) (rel : List Str) (listing : List FsNode) : List Str :=
  (fileNames listing).filter (fun f => !excl (rel ++ [f]) false)

/-- `w` is the `index.rst` of a directory of the tree that is reached without passing an excluded directory
    (auto-exclusion off: its entries are the surviving sub-directories and files, sorted) -/
def IsIndexWrite (c : WalkCfg) (excl : List Str → Bool → Bool) (pfx : Str) (rel : List Str) (listing : List FsNode)
    (w : Write) : Prop :=
  ∃ q ch, DirAt listing q ch ∧ OpenPath excl rel q ∧ w.path = rel ++ q ++ [lit "index.rst"] ∧
    indexPage c pfx (rel ++ q) (sortStrs (keptDirs excl (rel ++ q) ch)) (sortStrs (keptFileNames excl (rel ++ q) ch))
      = .ok w.content

/-- `w` is the page of a reachable file -/
def IsPageWrite (c : WalkCfg) (excl : List Str → Bool → Bool) (pfx : Str) (rel : List Str) (listing : List FsNode)
    (w : Write) : Prop :=
  ∃ q f content, Reachable excl rel listing q f content ∧ w.path = rel ++ q ++ [stem f ++ lit ".rst"] ∧
    page c (some pfx) (joinWith ['/'] (rel ++ q ++ [f])) content = .ok w.content

/-- within every directory of the tree all entry names are pairwise distinct (what a file system guarantees) -/
def DistinctNames (listing : List FsNode) : Prop :=
  ∀ q ch, DirAt listing q ch → (ch.map FsNode.name).Nodup

/-- the same tree with the entries of every directory listed in a possibly different order: a permutation of
    the listing in which corresponding sub-directories are again related in this way; files keep their content -/
inductive DeepPerm : List FsNode → List FsNode → Prop
  | nil : DeepPerm [] []
  | file (n content : Str) {l₁ l₂ : List FsNode} :
      DeepPerm l₁ l₂ → DeepPerm (.file n content :: l₁) (.file n content :: l₂)
  | dir (n : Str) {ch₁ ch₂ l₁ l₂ : List FsNode} :
      DeepPerm ch₁ ch₂ → DeepPerm l₁ l₂ → DeepPerm (.dir n ch₁ :: l₁) (.dir n ch₂ :: l₂)
  | swap (x y : FsNode) (l : List FsNode) : DeepPerm (x :: y :: l) (y :: x :: l)
  | trans {l₁ l₂ l₃ : List FsNode} : DeepPerm l₁ l₂ → DeepPerm l₂ l₃ → DeepPerm l₁ l₃

/-- every file of the tree with a CMake name can be documented -/
def AllRender (c : WalkCfg) (pfx : Str) (rel : List Str) (listing : List FsNode) : Prop :=
  ∀ q ch f content, DirAt listing q ch → FsNode.file f content ∈ ch → isCMakeName f = true →
    ∃ text, page c (some pfx) (joinWith ['/'] (rel ++ q ++ [f])) content = .ok text

section

variable {c : WalkCfg} {excl : List Str → Bool → Bool} {pfx : Str} {rel : List Str} {l l₁ l₂ : List FsNode}
  {it : WItem}

variable (c excl pfx rel) in
theorem walk_new (l : List FsNode) (r : RunResult) :
    ∃ pre, pre <+: layoutK c excl rel l ∧ (∀ x ∈ pre, x.Ok c pfx) ∧
      newWrites c excl pfx rel l r = (if c.toStdout then [] else pre.map (WItem.write c pfx)) ∧
      newStdout c excl pfx rel l r = (if c.toStdout then (pre.map (WItem.printed c pfx)).flatten else []) ∧
      (r.error = none → (walkDir c excl pfx rel l r).error = none → pre = layoutK c excl rel l) := by
  obtain ⟨pre, hpre, hok, hw, hs, hall⟩ := runItems_prefix c pfx (layoutK c excl rel l) r
  refine ⟨pre, hpre, hok, ?_, ?_, by rwa [walkDir_eq]⟩
  · rw [newWrites, walkDir_eq, hw]
    simp [ranOk]
  · rw [newStdout, walkDir_eq, hs]
    simp [ranOk]

theorem walk_new_ok {r : RunResult} (hr : r.error = none) (hok : (walkDir c excl pfx rel l r).error = none) :
    (∀ x ∈ layoutK c excl rel l, x.Ok c pfx) ∧
      newWrites c excl pfx rel l r = (if c.toStdout then [] else (layoutK c excl rel l).map (WItem.write c pfx)) ∧
      newStdout c excl pfx rel l r =
        (if c.toStdout then ((layoutK c excl rel l).map (WItem.printed c pfx)).flatten else []) := by
  obtain ⟨pre, _, hpok, hw, hs, hall⟩ := walk_new c excl pfx rel l r
  cases hall hr hok
  exact ⟨hpok, hw, hs⟩

theorem mem_newWrites {r : RunResult} {w : Write} (hw : w ∈ newWrites c excl pfx rel l r) :
    ∃ it ∈ layoutK c excl rel l, w.path = it.path ∧ it.text c pfx = .ok w.content := by
  obtain ⟨pre, hpre, hok, hnw, _, _⟩ := walk_new c excl pfx rel l r
  rw [hnw] at hw
  split at hw
  · cases hw
  · rename_i ht
    obtain ⟨it, hit, rfl⟩ := List.mem_map.1 hw
    exact ⟨it, hpre.subset hit, rfl, isOk_iff.1 (hok it hit (WItem.active_iff.2 (.inl (Bool.eq_false_iff.2 ht))))⟩

/-- in an error-free run with an output directory the new writes are exactly those of the layout's items -/
theorem mem_newWrites_iff {r : RunResult} {w : Write} (ht : c.toStdout = false) (hr : r.error = none)
    (hok : (walkDir c excl pfx rel l r).error = none) :
    w ∈ newWrites c excl pfx rel l r ↔
      ∃ it ∈ layoutK c excl rel l, w.path = it.path ∧ it.text c pfx = .ok w.content := by
  refine ⟨mem_newWrites, fun ⟨it, hit, hp, htx⟩ => ?_⟩
  rw [(walk_new_ok hr hok).2.1, if_neg (by simp [ht])]
  refine List.mem_map.2 ⟨it, hit, ?_⟩
  rw [WItem.write, WItem.textD, htx, ← hp]
  rfl

theorem openPath_nil : OpenPath excl rel [] :=
  fun q' d hp => by simp at hp

theorem openPath_cons {n : Str} {q : List Str} :
    OpenPath excl rel (n :: q) ↔ excl (rel ++ [n]) true = false ∧ OpenPath excl (rel ++ [n]) q := by
  constructor
  · intro h
    refine ⟨by simpa using h [] n (by simp), fun q' d hp => ?_⟩
    simpa [List.append_assoc] using h (n :: q') d (by simpa using hp)
  · rintro ⟨h0, h1⟩ q' d hp
    cases q' with
    | nil =>
      simp only [List.nil_append, List.cons_prefix_cons] at hp
      rw [hp.1]; simpa using h0
    | cons m q'' =>
      simp only [List.cons_append, List.cons_prefix_cons] at hp
      rw [hp.1]
      simpa [List.append_assoc] using h1 q'' d hp.2

theorem layoutK_sound (l : List FsNode) :
    ∀ rel, it ∈ layoutK c excl rel l →
      ∃ q ch, DirAt l q ch ∧ OpenPath excl rel q ∧ it ∈ dirItemsK c excl (rel ++ q) ch := by
  induction l using FsNode.children_induction with
  | step l ih =>
    intro rel h
    rcases mem_layoutK.1 h with h | ⟨_, n, ch, hm, hk, hj⟩
    · exact ⟨[], l, .here l, openPath_nil, by simpa using h⟩
    · obtain ⟨q, ch', hd, ho, hi⟩ := ih n ch hm _ hj
      exact ⟨n :: q, ch', .step hm hd, openPath_cons.2 ⟨keepDir_not_excl hk, ho⟩,
        by simpa [List.append_assoc] using hi⟩

theorem layoutK_complete (hrec : c.recursive = true) (ha : c.autoExclude = false) {q : List Str} {ch : List FsNode}
    (hd : DirAt l q ch) :
    ∀ rel, OpenPath excl rel q → it ∈ dirItemsK c excl (rel ++ q) ch → it ∈ layoutK c excl rel l := by
  induction hd with
  | here l => intro rel _ h; exact mem_layoutK.2 (.inl (by simpa using h))
  | step hm _ ih =>
    intro rel ho h
    have ho' := openPath_cons.1 ho
    exact mem_layoutK.2 (.inr ⟨hrec, _, _, hm, by simp [keepDir_of_noAuto ha, ho'.1],
      ih _ ho'.2 (by simpa [List.append_assoc] using h)⟩)

theorem layoutK_reachable (h : it ∈ layoutK c excl rel l) :
    ∃ q ch, DirAt l q ch ∧ OpenPath excl rel q ∧
      (it = .index (rel ++ q) (sortStrs ((dirNames ch).filter (keepDir c excl (rel ++ q) ch)))
          (sortStrs (keptFiles excl (rel ++ q) ch)) ∨
       (∃ f ct, it = .page (rel ++ q) f ct ∧ Reachable excl rel l q f ct)) := by
  obtain ⟨q, ch, hd, ho, hi⟩ := layoutK_sound l rel h
  refine ⟨q, ch, hd, ho, ?_⟩
  rcases (mem_dirItemsWith.1 hi).2 with h | ⟨f, ct, rfl, hf, hc, hfind⟩
  · exact .inl h
  · exact .inr ⟨f, ct, rfl, ch, hd, findFile_mem hfind, hc, ho, (mem_keptFiles.1 hf).2⟩

theorem distinctNames_cons {x : FsNode} :
    DistinctNames (x :: l) ↔
      x.name ∉ l.map FsNode.name ∧ (∀ n ch, x = .dir n ch → DistinctNames ch) ∧ DistinctNames l := by
  constructor
  · intro h
    have h0 := h [] _ (.here _)
    rw [List.map_cons, List.nodup_cons] at h0
    refine ⟨h0.1, fun n ch hx q ch' hd => h (n :: q) ch' (.step (hx ▸ List.mem_cons_self ..) hd), fun q ch hd => ?_⟩
    cases hd with
    | here => exact h0.2
    | step hm hd' => exact h _ ch (.step (List.mem_cons_of_mem _ hm) hd')
  · rintro ⟨h1, h2, h3⟩ q ch hd
    cases hd with
    | here => exact List.nodup_cons.2 ⟨h1, h3 [] l (.here l)⟩
    | step hm hd' =>
      rcases List.mem_cons.1 hm with he | hm
      · exact h2 _ _ he.symm _ ch hd'
      · exact h3 _ ch (.step hm hd')

theorem DistinctNames.child {n : Str} {ch : List FsNode} (h : DistinctNames l)
    (hm : FsNode.dir n ch ∈ l) : DistinctNames ch :=
  fun q ch' hd => h (n :: q) ch' (.step hm hd)

theorem DistinctNames.child_at {q : List Str} {ch : List FsNode} (h : DistinctNames l)
    (hd : DirAt l q ch) : DistinctNames ch := by
  induction hd with
  | here => exact h
  | step hm _ ih => exact ih (h.child hm)

theorem DistinctNames.fileNames_nodup (h : DistinctNames l) : (fileNames l).Nodup :=
  (fileNames_sublist_names l).nodup (h [] l (.here l))

theorem DistinctNames.dirNames_nodup (h : DistinctNames l) : (dirNames l).Nodup :=
  (dirNames_sublist_names l).nodup (h [] l (.here l))

/-- a reachable file has its page item in the layout -/
theorem Reachable.page_mem {q : List Str} {f content : Str} (hre : Reachable excl rel l q f content)
    (hrec : c.recursive = true) (ha : c.autoExclude = false) (hd : DistinctNames l) :
    WItem.page (rel ++ q) f content ∈ layoutK c excl rel l := by
  obtain ⟨ch, hda, hm, hc, ho, he⟩ := hre
  exact layoutK_complete hrec ha hda rel ho (mem_dirItemsWith.2 ⟨fun h => by simp [ha] at h, .inr ⟨f, content, rfl,
    mem_keptFiles.2 ⟨mem_fileNames.2 ⟨content, hm⟩, he⟩, hc, findFile_of_mem (hd.child_at hda).fileNames_nodup hm⟩⟩)

theorem DistinctNames.treeOk : ∀ l : List FsNode, DistinctNames l → treeOk l = true := by
  intro l
  induction l using FsNode.children_induction with
  | step l ih =>
    intro h
    exact (treeOk_iff l).2 ⟨h.dirNames_nodup, listOk_iff.2 fun n ch hm => ih n ch hm (h.child hm)⟩

theorem DeepPerm.names (h : DeepPerm l₁ l₂) : (l₁.map FsNode.name).Perm (l₂.map FsNode.name) := by
  induction h with
  | nil => exact .refl _
  | file n c _ ih => simpa [FsNode.name] using ih
  | dir n _ _ _ ih2 => simpa [FsNode.name] using ih2
  | swap x y l => simp [List.Perm.swap]
  | trans _ _ ih1 ih2 => exact ih1.trans ih2

theorem DeepPerm.fileNames (h : DeepPerm l₁ l₂) : (fileNames l₁).Perm (fileNames l₂) := by
  induction h with
  | nil => exact .refl _
  | file n c _ ih => simpa [Cminx.fileNames] using ih
  | dir n _ _ _ ih2 => simpa [Cminx.fileNames] using ih2
  | swap x y l => cases x <;> cases y <;> simp [Cminx.fileNames, List.Perm.swap]
  | trans _ _ ih1 ih2 => exact ih1.trans ih2

theorem DeepPerm.distinctNames (h : DeepPerm l₁ l₂) : DistinctNames l₁ → DistinctNames l₂ := by
  induction h with
  | nil => exact id
  | file n c hp ih =>
    simp only [distinctNames_cons]
    exact fun ⟨h1, _, h3⟩ => ⟨fun hm => h1 (hp.names.mem_iff.2 hm), fun _ _ he => (nomatch he), ih h3⟩
  | dir n hc hp ih1 ih2 =>
    simp only [distinctNames_cons]
    exact fun ⟨h1, h2, h3⟩ => ⟨fun hm => h1 (hp.names.mem_iff.2 hm),
      fun _ _ he => by cases he; exact ih1 (h2 _ _ rfl), ih2 h3⟩
  | swap x y l =>
    simp only [distinctNames_cons, List.map_cons, List.mem_cons, not_or]
    exact fun ⟨⟨h1, h2⟩, hx, ⟨h3, hy, hl⟩⟩ => ⟨⟨fun e => h1 e.symm, h3⟩, hy, ⟨h2, hx, hl⟩⟩
  | trans _ _ ih1 ih2 => exact fun h => ih2 (ih1 h)

theorem DeepPerm.file_mem (h : DeepPerm l₁ l₂) {f ct : Str} : FsNode.file f ct ∈ l₁ ↔ FsNode.file f ct ∈ l₂ := by
  induction h with
  | nil => rfl
  | file n c _ ih => simp [ih]
  | dir n _ _ _ ih2 => simp [ih2]
  | swap x y l => simp [or_left_comm]
  | trans _ _ ih1 ih2 => exact ih1.trans ih2

theorem DeepPerm.findFile (h : DeepPerm l₁ l₂) (f : Str) :
    (Cminx.fileNames l₁).Nodup → Cminx.findFile f l₁ = Cminx.findFile f l₂ := by
  intro hn
  ext ct
  rw [findFile_eq_some_iff hn, findFile_eq_some_iff (h.fileNames.nodup_iff.1 hn), h.file_mem]

theorem DeepPerm.hasCMake (h : DeepPerm l₁ l₂) :
    Cminx.hasCMake excl rel l₁ = Cminx.hasCMake excl rel l₂ :=
  h.fileNames.any_eq

theorem DeepPerm.survives (h : DeepPerm l₁ l₂) {n : Str} :
    Cminx.survives c excl rel n l₁ = Cminx.survives c excl rel n l₂ := by
  simp only [Cminx.survives, h.hasCMake]

theorem DeepPerm.survivingDirs (h : DeepPerm l₁ l₂) :
    (Cminx.survivingDirs c excl rel l₁).Perm (Cminx.survivingDirs c excl rel l₂) := by
  induction h with
  | nil => exact .refl _
  | file n ct _ ih => exact ih
  | dir n hc _ _ ih2 =>
    rw [survivingDirs_cons, survivingDirs_cons]
    simp only [hc.survives]
    exact ih2.append_left _
  | swap x y l =>
    simp only [survivingDirs_cons, ← List.append_assoc]
    exact List.perm_append_comm.append_right _
  | trans _ _ ih1 ih2 => exact ih1.trans ih2

theorem DeepPerm.dirItems (h : DeepPerm l₁ l₂) (hn : (Cminx.fileNames l₁).Nodup) :
    Cminx.dirItems c excl rel l₁ = Cminx.dirItems c excl rel l₂ := by
  have hp : dirPages rel l₁ = dirPages rel l₂ := by
    funext names; simp only [dirPages, h.findFile _ hn]
  simp only [Cminx.dirItems, keptFiles, h.hasCMake, sortStrs_eq_of_perm h.survivingDirs,
    sortStrs_eq_of_perm (h.fileNames.filter _), hp]

theorem DeepPerm.layoutOf_of_subs (h : DeepPerm l₁ l₂) (hn : (Cminx.fileNames l₁).Nodup)
    (hs : (Cminx.subsLayout c excl rel l₁).Perm (Cminx.subsLayout c excl rel l₂)) :
    (Cminx.layoutOf c excl rel l₁).Perm (Cminx.layoutOf c excl rel l₂) := by
  rw [Cminx.layoutOf, Cminx.layoutOf, h.dirItems hn]
  refine List.Perm.append_left _ ?_
  split
  · exact hs
  · exact .refl _

theorem DeepPerm.subsLayout (h : DeepPerm l₁ l₂) :
    DistinctNames l₁ → ∀ rel, (Cminx.subsLayout c excl rel l₁).Perm (Cminx.subsLayout c excl rel l₂) := by
  induction h with
  | nil => intro _ _; exact .refl _
  | file n ct _ ih =>
    intro hd rel
    rw [subsLayout_file, subsLayout_file]
    exact ih (distinctNames_cons.1 hd).2.2 rel
  | @dir n ch₁ ch₂ _ _ hc _ ih1 ih2 =>
    intro hd rel
    have hd' := distinctNames_cons.1 hd
    have hch := hd'.2.1 _ _ rfl
    rw [subsLayout_dir, subsLayout_dir, hc.survives]
    refine List.Perm.append ?_ (ih2 hd'.2.2 rel)
    split
    · exact hc.layoutOf_of_subs hch.fileNames_nodup (ih1 hch _)
    · exact .refl _
  | swap x y l =>
    intro _ rel
    simp only [Cminx.subsLayout, ← List.append_assoc]
    exact List.perm_append_comm.append_right _
  | trans h1 _ ih1 ih2 => exact fun hd rel => (ih1 hd rel).trans (ih2 (h1.distinctNames hd) rel)

variable (c excl rel) in
theorem DeepPerm.layoutOf (h : DeepPerm l₁ l₂) (hd : DistinctNames l₁) :
    (Cminx.layoutOf c excl rel l₁).Perm (Cminx.layoutOf c excl rel l₂) :=
  h.layoutOf_of_subs hd.fileNames_nodup (h.subsLayout hd rel)

variable (c excl rel) in
theorem DeepPerm.layoutK (h : DeepPerm l₁ l₂) (hd : DistinctNames l₁) :
    (Cminx.layoutK c excl rel l₁).Perm (Cminx.layoutK c excl rel l₂) := by
  rw [layoutK_eq (hd.treeOk l₁), layoutK_eq ((h.distinctNames hd).treeOk l₂)]
  exact h.layoutOf c excl rel hd


mutual
/-- every file with a CMake name in the tree can be documented (computable) -/
def nodeRenderB (c : WalkCfg) (pfx : Str) (rel : List Str) : FsNode → Bool
  | .file f content =>
    !isCMakeName f || (match page c (some pfx) (joinWith ['/'] (rel ++ [f])) content with | .ok _ => true | .error _ => false)
  | .dir n ch => allRenderB c pfx (rel ++ [n]) ch
def allRenderB (c : WalkCfg) (pfx : Str) (rel : List Str) : List FsNode → Bool
  | [] => true
  | x :: rest => nodeRenderB c pfx rel x && allRenderB c pfx rel rest
end

theorem allRenderB_iff : allRenderB c pfx rel l = true ↔ ∀ x ∈ l, nodeRenderB c pfx rel x = true := by
  induction l with
  | nil => simp [allRenderB]
  | cons x l ih => simp [allRenderB, ih]

mutual
def nodeNodupB : FsNode → Bool
  | .file _ _ => true
  | .dir _ ch => nodupTreeB ch
/-- computable form of `DistinctNames` -/
def nodupTreeB : List FsNode → Bool
  | [] => true
  | x :: rest => !(rest.map FsNode.name).contains x.name && nodeNodupB x && nodupTreeB rest
end

theorem AllRender.of_check :
    ∀ {rel : List Str}, allRenderB c pfx rel l = true → AllRender c pfx rel l := by
  intro rel h q ch f content hd
  induction hd generalizing rel with
  | here l =>
    intro hm hc
    have := allRenderB_iff.1 h _ hm
    simp only [nodeRenderB, hc, Bool.not_true, Bool.false_or, List.append_nil] at this ⊢
    split at this
    · exact ⟨_, ‹_›⟩
    · cases this
  | step hm' _ ih =>
    intro hm hc
    simpa [List.append_assoc] using ih (allRenderB_iff.1 h _ hm') hm hc

theorem DistinctNames.of_check : nodupTreeB l = true → DistinctNames l := by
  induction l using FsNode.list_induction with
  | nil =>
    intro _ q ch hd
    cases hd with
    | here => exact .nil
    | step hm _ => cases hm
  | file n c rest ih =>
    intro h
    simp only [nodupTreeB, Bool.and_eq_true, Bool.not_eq_true', List.contains_eq_mem, decide_eq_false_iff_not] at h
    exact distinctNames_cons.2 ⟨h.1.1, fun _ _ he => (nomatch he), ih h.2⟩
  | dir n ch rest ihc ih =>
    intro h
    simp only [nodupTreeB, nodeNodupB, Bool.and_eq_true, Bool.not_eq_true', List.contains_eq_mem,
      decide_eq_false_iff_not] at h
    refine distinctNames_cons.2 ⟨h.1.1, fun _ _ he => ?_, ih h.2⟩
    cases he
    exact ihc h.1.2

end

/-- **C15 (1)** an input path that is itself excluded produces no output at all: the run result is returned
    unchanged, whatever the input is (a directory, a file, or missing) -/
theorem C15_root (c : WalkCfg) (excl : List Str → Bool → Bool) (inp : Input) (r : RunResult) :
    document c excl true inp r = (r, false) := rfl

/-- what was written and printed before stays; `newWrites` / `newStdout` is what the walk adds -/
theorem C15_frame (c : WalkCfg) (excl : List Str → Bool → Bool) (pfx : Str) (rel : List Str)
    (listing : List FsNode) (r : RunResult) :
    (walkDir c excl pfx rel listing r).writes = r.writes ++ newWrites c excl pfx rel listing r ∧
    (walkDir c excl pfx rel listing r).stdout = r.stdout ++ newStdout c excl pfx rel listing r := by
  rw [newWrites, newStdout, walkDir_seq, RunResult.seq_eq_app]
  by_cases h : r.error.isSome
  · simp [RunResult.app_of_error h]
  · simp [RunResult.app, h]

/-- **C15 (5)** the surviving sub-directories and files of one directory are exactly the entries of the listing
    that match no pattern — however many entries match, adjacent or not -/
theorem C15_count_independent (excl : List Str → Bool → Bool) (rel : List Str) (listing : List FsNode) :
    (∀ n, n ∈ keptDirs excl rel listing ↔ n ∈ dirNames listing ∧ excl (rel ++ [n]) true = false) ∧
    (∀ f, f ∈ keptFileNames excl rel listing ↔ f ∈ fileNames listing ∧ excl (rel ++ [f]) false = false) := by
  simp [keptDirs, keptFileNames]

/-- **C15 (5), tied to the model**: with auto-exclusion off and an output directory, the first thing a walk
    writes is the index page of its directory, and its entries are the sorted survivors `keptDirs`,
    `keptFileNames` (sub-directories only appear in recursive mode, see `indexPage`) -/
theorem C15_count_independent_index (c : WalkCfg) (excl : List Str → Bool → Bool) (pfx : Str) (rel : List Str)
    (listing : List FsNode) (r : RunResult) (hr : r.error = none)
    (ha : c.autoExclude = false) (ht : c.toStdout = false) (hh : c.headers ≠ []) :
    ∃ text, indexPage c pfx rel (sortStrs (keptDirs excl rel listing)) (sortStrs (keptFileNames excl rel listing))
        = .ok text ∧
      (newWrites c excl pfx rel listing r).head? = some ⟨rel ++ [lit "index.rst"], text⟩ := by
  refine ⟨_, isOk_iff.1 (indexPage_isOk hh ..), ?_⟩
  rw [newWrites, walkDir_eq, layoutK, dirItemsK, dirItemsWith, keepDir_of_noAuto ha]
  simp only [ha, Bool.false_and, Bool.false_eq_true, if_false, List.cons_append, runItems_cons]
  rw [runItems_app, emitItem_ok (it := .index _ _ _) hr (fun _ => indexPage_isOk hh ..), RunResult.app_of_ok rfl]
  simp [ht, WItem.write, WItem.path, WItem.textD, WItem.text, keptDirs, keptFileNames, keptFiles]

/-- **C15 (2), (3 "only if")** every write a walk adds is the index page of a directory of the tree, or the page
    of a file of the tree with a CMake name; no directory on the way down to it is excluded, and in the second
    case the file itself is not excluded.  This holds in every mode (recursive or not, auto-exclusion on or off)
    and also when the run stops early with an error — however many siblings match the patterns. -/
theorem C15_only_if (c : WalkCfg) (excl : List Str → Bool → Bool) (pfx : Str) (rel : List Str)
    (listing : List FsNode) (r : RunResult) (w : Write) (hw : w ∈ newWrites c excl pfx rel listing r) :
    (∃ q ch, DirAt listing q ch ∧ OpenPath excl rel q ∧ w.path = rel ++ q ++ [lit "index.rst"]) ∨
    IsPageWrite c excl pfx rel listing w := by
  obtain ⟨it, hit, hp, ht⟩ := mem_newWrites hw
  obtain ⟨q, ch, hda, ho, rfl | ⟨f, ct, rfl, hre⟩⟩ := layoutK_reachable hit
  · exact .inl ⟨q, ch, hda, ho, hp⟩
  · exact .inr ⟨q, f, ct, hre, hp, by simpa [WItem.text, List.append_assoc] using ht⟩

/-- the path of every new write is `rel ++ q ++ [x]` with no excluded directory among `rel ++ q'`, `q'` a
    non-empty prefix of `q` -/
theorem C15_write_path (c : WalkCfg) (excl : List Str → Bool → Bool) (pfx : Str) (rel : List Str)
    (listing : List FsNode) (r : RunResult) (w : Write) (hw : w ∈ newWrites c excl pfx rel listing r) :
    ∃ q x, w.path = rel ++ q ++ [x] ∧ OpenPath excl rel q := by
  rcases C15_only_if c excl pfx rel listing r w hw with ⟨q, _, _, ho, hp⟩ | ⟨q, f, _, ⟨_, _, _, _, ho, _⟩, hp, _⟩
  · exact ⟨q, _, hp, ho⟩
  · exact ⟨q, _, hp, ho⟩

/-- **C15 (2), general form** if a new write lies strictly below a directory `rel ++ q ++ [d]`, that directory
    is not excluded -/
theorem C15_no_descend_deep (c : WalkCfg) (excl : List Str → Bool → Bool) (pfx : Str) (rel : List Str)
    (listing : List FsNode) (r : RunResult) (w : Write) (hw : w ∈ newWrites c excl pfx rel listing r)
    (q : List Str) (d : Str) (rest : List Str) (hrest : rest ≠ [])
    (hp : w.path = rel ++ q ++ [d] ++ rest) : excl (rel ++ q ++ [d]) true = false := by
  obtain ⟨q₀, x, hp₀, ho⟩ := C15_write_path c excl pfx rel listing r w hw
  rw [hp₀, ← List.dropLast_concat_getLast hrest] at hp
  have h1 : rel ++ q₀ ++ [x] = (rel ++ (q ++ [d] ++ rest.dropLast)) ++ [rest.getLast hrest] := by
    rw [hp]; simp [List.append_assoc]
  have h2 := (List.append_inj' h1 rfl).1
  have h3 : q₀ = q ++ [d] ++ rest.dropLast := List.append_cancel_left h2
  exact ho q d (by rw [h3]; exact List.prefix_append _ _)

/-- **C15 (2)** an excluded sub-directory is not descended into: nothing is written below it -/
theorem C15_no_descend (c : WalkCfg) (excl : List Str → Bool → Bool) (pfx : Str) (rel : List Str)
    (listing : List FsNode) (r : RunResult) (n : Str) (hn : excl (rel ++ [n]) true = true)
    (w : Write) (hw : w ∈ newWrites c excl pfx rel listing r) (rest : List Str) (hrest : rest ≠ []) :
    w.path ≠ rel ++ [n] ++ rest := by
  intro hp
  have := C15_no_descend_deep c excl pfx rel listing r w hw [] n rest hrest (by simpa using hp)
  simp [hn] at this

/-- **C15 (2), standard output** what a walk prints is a sequence of pages, each followed by an empty line, and
    each the page of a reachable file: nothing of an excluded directory or file reaches standard output -/
theorem C15_no_descend_stdout (c : WalkCfg) (excl : List Str → Bool → Bool) (pfx : Str) (rel : List Str)
    (listing : List FsNode) (r : RunResult) :
    ∃ ts : List Str,
      (∀ t ∈ ts, ∃ q f content, Reachable excl rel listing q f content ∧
        page c (some pfx) (joinWith ['/'] (rel ++ q ++ [f])) content = .ok t) ∧
      newStdout c excl pfx rel listing r = ts.flatMap (· ++ ['\n', '\n']) := by
  obtain ⟨pre, hpre, hok, _, hs, _⟩ := walk_new c excl pfx rel listing r
  rw [hs]
  by_cases ht : c.toStdout = true
  · refine ⟨(pre.filterMap WItem.page?).map (pageText c pfx), ?_, ?_⟩
    · intro t hmem
      obtain ⟨⟨prel, f, ct⟩, hp, rfl⟩ := List.mem_map.1 hmem
      have hit := mem_filterMap_page?.1 hp
      obtain ⟨q, _, _, _, h | ⟨_, _, h, hre⟩⟩ := layoutK_reachable (hpre.subset hit)
      · cases h
      · cases h
        exact ⟨q, f, ct, hre, isOk_iff.1 (hok _ hit (WItem.active_iff.2 (.inr rfl)))⟩
    · simp [ht, printed_flatten, List.flatMap_def, List.map_map, Function.comp_def]
  · exact ⟨[], by simp, by simp [ht]⟩

/-- **C15 (3 "if")** recursive mode, auto-exclusion off, output directory given, error-free run: every reachable
    file has its page among the new writes -/
theorem C15_if (c : WalkCfg) (excl : List Str → Bool → Bool) (pfx : Str) (rel : List Str)
    (listing : List FsNode) (r : RunResult)
    (hrec : c.recursive = true) (ha : c.autoExclude = false) (ht : c.toStdout = false)
    (hr : r.error = none) (hok : (walkDir c excl pfx rel listing r).error = none)
    (hd : DistinctNames listing)
    (q : List Str) (f content : Str) (hre : Reachable excl rel listing q f content) :
    ∃ text, page c (some pfx) (joinWith ['/'] (rel ++ q ++ [f])) content = .ok text ∧
      (⟨rel ++ q ++ [stem f ++ lit ".rst"], text⟩ : Write) ∈ newWrites c excl pfx rel listing r := by
  have hit := hre.page_mem hrec ha hd
  have htext := isOk_iff.1 ((walk_new_ok hr hok).1 _ hit (WItem.active_iff.2 (.inl ht)))
  exact ⟨_, htext, (mem_newWrites_iff ht hr hok).2 ⟨_, hit, rfl, htext⟩⟩

/-- **C15 (3)** recursive mode, auto-exclusion off, output directory given, error-free run, distinct names: the
    set of new writes is exactly the set of index pages of the directories reached without passing an excluded
    directory, together with the pages of the reachable files.  A file or directory is processed if and only if
    it and all directories above it match none of the patterns. -/
theorem C15_iff (c : WalkCfg) (excl : List Str → Bool → Bool) (pfx : Str) (rel : List Str)
    (listing : List FsNode) (r : RunResult)
    (hrec : c.recursive = true) (ha : c.autoExclude = false) (ht : c.toStdout = false)
    (hr : r.error = none) (hok : (walkDir c excl pfx rel listing r).error = none)
    (hd : DistinctNames listing) (w : Write) :
    w ∈ newWrites c excl pfx rel listing r ↔
      IsIndexWrite c excl pfx rel listing w ∨ IsPageWrite c excl pfx rel listing w := by
  rw [mem_newWrites_iff ht hr hok]
  constructor
  · rintro ⟨it, hit, hp, htx⟩
    obtain ⟨q, ch, hda, ho, rfl | ⟨f, ct, rfl, hre⟩⟩ := layoutK_reachable hit
    · exact .inl ⟨q, ch, hda, ho, hp, by rw [keepDir_of_noAuto ha] at htx; exact htx⟩
    · exact .inr ⟨q, f, ct, hre, hp, htx⟩
  · rintro (⟨q, ch, hda, ho, hp, hidx⟩ | ⟨q, f, content, hre, hp, hpage⟩)
    · exact ⟨_, layoutK_complete hrec ha hda rel ho (mem_dirItemsWith.2 ⟨fun h => by simp [ha] at h, .inl rfl⟩), hp,
        by rw [keepDir_of_noAuto ha]; exact hidx⟩
    · exact ⟨_, hre.page_mem hrec ha hd, hp, hpage⟩

/-- "error-free" follows from "every page renders and there is a heading character" -/
theorem C15_errorfree (c : WalkCfg) (excl : List Str → Bool → Bool) (pfx : Str) (rel : List Str)
    (listing : List FsNode) (r : RunResult) (hr : r.error = none) (hh : c.headers ≠ [])
    (hall : AllRender c pfx rel listing) : (walkDir c excl pfx rel listing r).error = none := by
  rw [walkDir_eq, runItems_error_none hr]
  intro it hit _
  obtain ⟨q, ch, _, _, rfl | ⟨f, ct, rfl, ch', hda, hm, hc, _⟩⟩ := layoutK_reachable hit
  · exact indexPage_isOk hh ..
  · obtain ⟨text, htext⟩ := hall q ch' f ct hda hm hc
    exact isOk_iff.2 (by simp only [WItem.text, htext, okText])

theorem C15_deepPerm_refl (l : List FsNode) : DeepPerm l l := by
  induction l using FsNode.list_induction with
  | nil => exact .nil
  | file n c _ ih => exact .file n c ih
  | dir n _ _ ihc ih => exact .dir n ihc ih

theorem C15_deepPerm_symm {l₁ l₂ : List FsNode} (h : DeepPerm l₁ l₂) : DeepPerm l₂ l₁ := by
  induction h with
  | nil => exact .nil
  | file n c _ ih => exact .file n c ih
  | dir n _ _ ih1 ih2 => exact .dir n ih1 ih2
  | swap x y l => exact .swap y x l
  | trans _ _ ih1 ih2 => exact .trans ih2 ih1

theorem C15_deepPerm_of_perm {l₁ l₂ : List FsNode} (h : l₁.Perm l₂) : DeepPerm l₁ l₂ := by
  induction h with
  | nil => exact .nil
  | cons x _ ih =>
    cases x with
    | file n c => exact .file n c ih
    | dir n ch => exact .dir n (C15_deepPerm_refl ch) ih
  | swap x y l => exact .swap y x l
  | trans _ _ ih1 ih2 => exact .trans ih1 ih2

/-- the theorems (4) ask `DistinctNames` of `l₁` only: it passes to `l₂` -/
theorem C15_distinctNames_deepPerm {l₁ l₂ : List FsNode} (h : DeepPerm l₁ l₂) (hd : DistinctNames l₁) :
    DistinctNames l₂ := h.distinctNames hd

/-- **C15 (4), error status** whether a walk ends with an error does not depend on the order in which the
    entries of the directories are listed -/
theorem C15_order_error (c : WalkCfg) (excl : List Str → Bool → Bool) (pfx : Str) (rel : List Str)
    {l₁ l₂ : List FsNode} (h : DeepPerm l₁ l₂) (hd : DistinctNames l₁) (r : RunResult) :
    (walkDir c excl pfx rel l₁ r).error = none ↔ (walkDir c excl pfx rel l₂ r).error = none := by
  rw [walkDir_eq, walkDir_eq]
  exact (runItems_perm (h.layoutK c excl rel hd)).1

/-- **C15 (4)** an error-free walk over the same tree listed in a different order performs the same writes —
    every index page and every page with the same path and the same text — possibly in a different order.
    (False for the code before repair D6, see `C15_old.lean`.) -/
theorem C15_order (c : WalkCfg) (excl : List Str → Bool → Bool) (pfx : Str) (rel : List Str)
    {l₁ l₂ : List FsNode} (h : DeepPerm l₁ l₂) (hd : DistinctNames l₁) (r : RunResult)
    (hok : (walkDir c excl pfx rel l₁ r).error = none) :
    (walkDir c excl pfx rel l₁ r).writes.Perm (walkDir c excl pfx rel l₂ r).writes := by
  rw [walkDir_eq] at hok ⊢
  rw [walkDir_eq]
  exact (runItems_perm (h.layoutK c excl rel hd)).2 hok

/-- **C15 (4), pointwise** a write (path and text) is made by the one walk iff it is made by the other -/
theorem C15_order_mem (c : WalkCfg) (excl : List Str → Bool → Bool) (pfx : Str) (rel : List Str)
    {l₁ l₂ : List FsNode} (h : DeepPerm l₁ l₂) (hd : DistinctNames l₁) (r : RunResult)
    (hok : (walkDir c excl pfx rel l₁ r).error = none) (w : Write) :
    w ∈ (walkDir c excl pfx rel l₁ r).writes ↔ w ∈ (walkDir c excl pfx rel l₂ r).writes :=
  (C15_order c excl pfx rel h hd r hok).mem_iff

/-- **C15 (4), new writes** the same for the writes the walks add -/
theorem C15_order_new (c : WalkCfg) (excl : List Str → Bool → Bool) (pfx : Str) (rel : List Str)
    {l₁ l₂ : List FsNode} (h : DeepPerm l₁ l₂) (hd : DistinctNames l₁) (r : RunResult)
    (hok : (walkDir c excl pfx rel l₁ r).error = none) :
    (newWrites c excl pfx rel l₁ r).Perm (newWrites c excl pfx rel l₂ r) := by
  have hp := C15_order c excl pfx rel h hd r hok
  rw [(C15_frame c excl pfx rel l₁ r).1, (C15_frame c excl pfx rel l₂ r).1] at hp
  exact (List.perm_append_left_iff _).1 hp

/-- **C15 (4), standard output** without an output directory the pages of different directories are printed in
    listing order; an error-free walk over the re-ordered tree prints the same blocks of text, possibly in a
    different order -/
theorem C15_order_stdout (c : WalkCfg) (excl : List Str → Bool → Bool) (pfx : Str) (rel : List Str)
    {l₁ l₂ : List FsNode} (h : DeepPerm l₁ l₂) (hd : DistinctNames l₁) (r : RunResult)
    (hok : (walkDir c excl pfx rel l₁ r).error = none) :
    ∃ b₁ b₂ : List Str, b₁.Perm b₂ ∧
      newStdout c excl pfx rel l₁ r = b₁.flatten ∧ newStdout c excl pfx rel l₂ r = b₂.flatten ∧
      ∀ b ∈ b₁, b = [] ∨ ∃ q f content text, Reachable excl rel l₁ q f content ∧
        page c (some pfx) (joinWith ['/'] (rel ++ q ++ [f])) content = .ok text ∧ b = text ++ ['\n', '\n'] := by
  have hr := error_none_of_walkDir hok
  obtain ⟨hok₁, _, hs₁⟩ := walk_new_ok hr hok
  rw [hs₁, (walk_new_ok hr ((C15_order_error c excl pfx rel h hd r).1 hok)).2.2]
  by_cases ht : c.toStdout = true
  · refine ⟨_, _, (h.layoutK c excl rel hd).map (WItem.printed c pfx), by simp [ht], by simp [ht], ?_⟩
    intro b hb
    obtain ⟨it, hit, rfl⟩ := List.mem_map.1 hb
    obtain ⟨q, _, _, _, rfl | ⟨f, ct, rfl, hre⟩⟩ := layoutK_reachable hit
    · exact .inl rfl
    · exact .inr ⟨q, f, ct, _, hre, isOk_iff.1 (hok₁ _ hit (WItem.active_iff.2 (.inr rfl))), rfl⟩
  · exact ⟨[], [], .refl _, by simp [ht], by simp [ht], by simp⟩

/-- the literal form of C15 (2) fails for an excluded directory called `index.rst`: the index page of its
    parent is written to that very path (but nothing below it, `C15_no_descend`) -/
theorem C15_no_descend_needs_strict :
    ∃ (c : WalkCfg) (excl : List Str → Bool → Bool) (pfx : Str) (rel : List Str) (listing : List FsNode)
      (r : RunResult) (n : Str) (w : Write),
      FsNode.dir n [] ∈ listing ∧ excl (rel ++ [n]) true = true ∧
      w ∈ newWrites c excl pfx rel listing r ∧ w.path = rel ++ [n] := by
  obtain ⟨text, _, h⟩ := C15_count_independent_index { autoExclude := false } (fun _ d => d) (lit "p") []
    [.dir (lit "index.rst") []] {} rfl rfl rfl (by decide)
  exact ⟨_, _, _, _, _, _, lit "index.rst", _, by simp, rfl, List.mem_of_mem_head? h, rfl⟩

/-- the literal form of C15 (3 "only if") fails when an excluded and a kept file of one directory have the same
    stem and the same page text: the write "of" the excluded `a.cmake` is there, made for `a.CMAKE` -/
theorem C15_iff_literal_false :
    ∃ (c : WalkCfg) (excl : List Str → Bool → Bool) (pfx : Str) (listing : List FsNode) (f content text : Str),
      c.recursive = true ∧ c.autoExclude = false ∧ c.toStdout = false ∧ DistinctNames listing ∧
      (walkDir c excl pfx [] listing {}).error = none ∧
      FsNode.file f content ∈ listing ∧ isCMakeName f = true ∧
      page c (some pfx) (joinWith ['/'] ([] ++ [] ++ [f])) content = .ok text ∧
      (⟨[] ++ [] ++ [stem f ++ lit ".rst"], text⟩ : Write) ∈ newWrites c excl pfx [] listing {} ∧
      ¬ Reachable excl [] listing [] f content := by
  let c : WalkCfg := { recursive := true, autoExclude := false }
  let excl : List Str → Bool → Bool := fun p d => !d && p == [lit "a.cmake"]
  let listing : List FsNode := [.file (lit "a.cmake") [], .file (lit "a.CMAKE") []]
  have hd : DistinctNames listing := .of_check (by decide +kernel)
  have hok : (walkDir c excl (lit "p") [] listing {}).error = none :=
    C15_errorfree c excl (lit "p") [] listing {} rfl (by decide +kernel) (.of_check (by decide +kernel))
  have hre : Reachable excl [] listing [] (lit "a.CMAKE") [] :=
    ⟨listing, .here _, by simp [listing], by decide +kernel, openPath_nil, by decide +kernel⟩
  obtain ⟨text, htext, hmem⟩ := C15_if c excl (lit "p") [] listing {} rfl rfl rfl rfl hok hd _ _ _ hre
  have hsame : page c (some (lit "p")) (joinWith ['/'] ([] ++ [] ++ [lit "a.cmake"])) [] =
      page c (some (lit "p")) (joinWith ['/'] ([] ++ [] ++ [lit "a.CMAKE"])) [] := by
    unfold page
    rw [show pageNames c (some (lit "p")) (joinWith ['/'] ([] ++ [] ++ [lit "a.cmake"])) =
      pageNames c (some (lit "p")) (joinWith ['/'] ([] ++ [] ++ [lit "a.CMAKE"])) by decide +kernel]
  refine ⟨c, excl, lit "p", listing, lit "a.cmake", [], text, rfl, rfl, rfl, hd, hok, by simp [listing], by decide +kernel,
    hsame.trans htext, ?_, ?_⟩
  · have : stem (lit "a.cmake") = stem (lit "a.CMAKE") := by decide +kernel
    rw [this]; exact hmem
  · rintro ⟨_, _, _, _, _, he⟩
    revert he; decide +kernel

/-- without `DistinctNames` the order of a listing matters: of two entries with the same name the first one is
    read (`findFile`), so swapping them changes what is documented — here, whether the run fails -/
theorem C15_order_needs_distinct :
    ∃ (c : WalkCfg) (excl : List Str → Bool → Bool) (pfx : Str) (l₁ l₂ : List FsNode),
      DeepPerm l₁ l₂ ∧ (walkDir c excl pfx [] l₁ {}).error = none ∧ (walkDir c excl pfx [] l₂ {}).error ≠ none := by
  refine ⟨{ recursive := true, autoExclude := false }, fun _ _ => false, lit "p",
    [.file (lit "a.cmake") [], .file (lit "a.cmake") (lit "(")],
    [.file (lit "a.cmake") (lit "("), .file (lit "a.cmake") []], .swap _ _ [], ?_, ?_⟩
  · rw [walkDir_eq]
    simp only [layoutK, dirItemsK, dirItemsWith, sortStrs_eq_isort]
    decide +kernel
  · rw [walkDir_eq]
    simp only [layoutK, dirItemsK, dirItemsWith, sortStrs_eq_isort]
    decide +kernel

/-! ## Non-vacuity: the theorems on a concrete tree -/

namespace C15Example

def cfg : WalkCfg := { recursive := true, autoExclude := false }

def src : List FsNode :=
  [ .file (lit "aa.cmake") [], .file (lit "ab.cmake") [], .file (lit "ac.cmake") [],
    .file (lit "keep.cmake") [], .dir (lit "deep") [ .file (lit "d.cmake") [] ] ]

/-- two levels below the input; in `src` the three adjacent siblings `aa.cmake`, `ab.cmake`, `ac.cmake` all
    match the pattern `src/a*`; the directory `build` and the file `skip.cmake` are excluded -/
def tree : List FsNode :=
  [ .file (lit "top.cmake") [],
    .dir (lit "build") [ .file (lit "gen.cmake") [] ],
    .dir (lit "src") src,
    .file (lit "skip.cmake") [] ]

def excl : List Str → Bool → Bool := fun p d =>
  (d && p == [lit "build"]) || (!d && p == [lit "skip.cmake"]) ||
  (!d && p.length == 2 && p.head? == some (lit "src") && (p.getLast?.getD []).head? == some 'a')

/-- the same tree as the operating system might list it on another day -/
def tree' : List FsNode :=
  [ .dir (lit "src") src.reverse, .file (lit "skip.cmake") [],
    .file (lit "top.cmake") [], .dir (lit "build") [ .file (lit "gen.cmake") [] ] ]

theorem distinct : DistinctNames tree := .of_check (by decide +kernel)
theorem renders : AllRender cfg (lit "p") [] tree := .of_check (by decide +kernel)
theorem errorfree : (walkDir cfg excl (lit "p") [] tree {}).error = none :=
  C15_errorfree cfg excl (lit "p") [] tree {} rfl (by decide +kernel) renders

theorem deepPerm : DeepPerm tree tree' :=
  .trans
    (.file _ _ (.dir _ (C15_deepPerm_refl _) (.dir _ (C15_deepPerm_of_perm (List.reverse_perm src).symm)
      (C15_deepPerm_refl _))))
    (C15_deepPerm_of_perm (List.perm_append_comm (l₁ := [_, _]) (l₂ := [_, _])))

-- (5) of the four files of `src`, three adjacent ones match; exactly the fourth survives
example : keptFileNames excl [lit "src"] src = [lit "keep.cmake"] := by decide +kernel
example : keptDirs excl [] tree = [lit "src"] := by decide +kernel
example : keptFileNames excl [] tree = [lit "top.cmake"] := by decide +kernel

example : document cfg excl true (.dir (lit "in") tree) {} = ({}, false) := C15_root _ _ _ _

example (w : Write) (hw : w ∈ newWrites cfg excl (lit "p") [] tree {}) (rest : List Str) (h : rest ≠ []) :
    w.path ≠ [lit "build"] ++ rest :=
  C15_no_descend cfg excl (lit "p") [] tree {} (lit "build") (by decide +kernel) w hw rest h

theorem reach_keep : Reachable excl [] tree [lit "src"] (lit "keep.cmake") [] :=
  ⟨src, .step (n := lit "src") (ch := src) (by simp [tree]) (.here _), by simp [src], by decide +kernel,
    openPath_cons.mpr ⟨by decide +kernel, openPath_nil⟩, by decide +kernel⟩

theorem reach_d : Reachable excl [] tree [lit "src", lit "deep"] (lit "d.cmake") [] :=
  ⟨_, .step (ch := src) (by simp [tree]) (.step (ch := [ .file (lit "d.cmake") [] ]) (by simp [src]) (.here _)),
    by simp, by decide +kernel,
    openPath_cons.mpr ⟨by decide +kernel, openPath_cons.mpr ⟨by decide +kernel, openPath_nil⟩⟩, by decide +kernel⟩

-- (3) the reachable files are written …
example : ∃ text, page cfg (some (lit "p")) (lit "src/keep.cmake") [] = .ok text ∧
    (⟨[lit "src", lit "keep.rst"], text⟩ : Write) ∈ newWrites cfg excl (lit "p") [] tree {} := by
  have h := C15_if cfg excl (lit "p") [] tree {} rfl rfl rfl rfl errorfree distinct _ _ _ reach_keep
  rw [show joinWith ['/'] ([] ++ [lit "src"] ++ [lit "keep.cmake"]) = lit "src/keep.cmake" from
      eq_lit_of (by decide +kernel),
    show [] ++ [lit "src"] ++ [stem (lit "keep.cmake") ++ lit ".rst"] = [lit "src", lit "keep.rst"] from
      congrArg (fun s => [lit "src", s]) (eq_lit_of (by decide +kernel))] at h
  exact h

example : ∃ text, page cfg (some (lit "p")) (lit "src/deep/d.cmake") [] = .ok text ∧
    (⟨[lit "src", lit "deep", lit "d.rst"], text⟩ : Write) ∈ newWrites cfg excl (lit "p") [] tree {} := by
  have h := C15_if cfg excl (lit "p") [] tree {} rfl rfl rfl rfl errorfree distinct _ _ _ reach_d
  rw [show joinWith ['/'] ([] ++ [lit "src", lit "deep"] ++ [lit "d.cmake"]) = lit "src/deep/d.cmake" from
      eq_lit_of (by decide +kernel),
    show [] ++ [lit "src", lit "deep"] ++ [stem (lit "d.cmake") ++ lit ".rst"] =
        [lit "src", lit "deep", lit "d.rst"] from
      congrArg (fun s => [lit "src", lit "deep", s]) (eq_lit_of (by decide +kernel))] at h
  exact h

-- … the excluded ones are not reachable, although `ab.cmake` follows a removed entry and precedes another one
example (content : Str) : ¬ Reachable excl [] tree [lit "src"] (lit "ab.cmake") content := by
  rintro ⟨_, _, _, _, _, he⟩
  revert he; decide +kernel

example (q : List Str) (f content : Str) : ¬ Reachable excl [] tree (lit "build" :: q) f content := by
  rintro ⟨_, _, _, _, ho, _⟩
  have := (openPath_cons.mp ho).1
  revert this; decide +kernel

example (w : Write) : w ∈ newWrites cfg excl (lit "p") [] tree {} ↔
    IsIndexWrite cfg excl (lit "p") [] tree w ∨ IsPageWrite cfg excl (lit "p") [] tree w :=
  C15_iff cfg excl (lit "p") [] tree {} rfl rfl rfl rfl errorfree distinct w

example : (walkDir cfg excl (lit "p") [] tree {}).writes.Perm (walkDir cfg excl (lit "p") [] tree' {}).writes :=
  C15_order cfg excl (lit "p") [] deepPerm distinct {} errorfree

example : (walkDir cfg excl (lit "p") [] tree' {}).error = none :=
  (C15_order_error cfg excl (lit "p") [] deepPerm distinct {}).mp errorfree

end C15Example

end Cminx
